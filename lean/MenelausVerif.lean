-- Root of the `MenelausVerif` proof library.
import MenelausVerif.Base.Drift
import MenelausVerif.Base.Arith
import MenelausVerif.Model.Election
import MenelausVerif.Model.PageHinkley
import MenelausVerif.Model.Lifecycle
import MenelausVerif.Props.C13
import MenelausVerif.Props.C01
import MenelausVerif.Props.C01Models
import MenelausVerif.Props.C01Examples
import MenelausVerif.Props.C02
import MenelausVerif.Props.C17
import MenelausVerif.Props.C17PH
import MenelausVerif.Model.Cusum
import MenelausVerif.Lemmas.SeqSteps
import MenelausVerif.Props.C04
import MenelausVerif.Model.Ensemble
import MenelausVerif.Props.C12
import MenelausVerif.Model.NNSP
import MenelausVerif.Lemmas.NNSPOrder
import MenelausVerif.Lemmas.NNSPDist
import MenelausVerif.Lemmas.NNSPKnn
import MenelausVerif.Lemmas.NNDVIStep
import MenelausVerif.Props.C10
import MenelausVerif.Props.C10Real
import MenelausVerif.Model.MD3
import MenelausVerif.Lemmas.MD3Step
import MenelausVerif.Props.C19
import MenelausVerif.Model.Inject
import MenelausVerif.Props.C20
import MenelausVerif.Model.LFR
import MenelausVerif.Lemmas.LFRLoop
import MenelausVerif.Lemmas.LFRArith
import MenelausVerif.Props.C06
import MenelausVerif.Model.ErrRecs
import MenelausVerif.Model.DDM
import MenelausVerif.Model.EDDM
import MenelausVerif.Model.STEPD
import MenelausVerif.Lemmas.ErrTrace
import MenelausVerif.Lemmas.ErrSteps
import MenelausVerif.Props.C05
import MenelausVerif.Props.C16
import MenelausVerif.Model.PCACD
import MenelausVerif.Lemmas.PCACDStep
import MenelausVerif.Props.C11
import MenelausVerif.Props.C11Examples
import MenelausVerif.Model.Adwin
import MenelausVerif.Lemmas.AdwinStruct
import MenelausVerif.Lemmas.AdwinStats
import MenelausVerif.Props.C03
import MenelausVerif.Props.C03Real
import MenelausVerif.Lemmas.Drift
import MenelausVerif.Lemmas.Carrier
import MenelausVerif.Model.HDM
import MenelausVerif.Lemmas.HDMStep
import MenelausVerif.Lemmas.HDMField
import MenelausVerif.Lemmas.HDMReal
import MenelausVerif.Props.C07
import MenelausVerif.Props.C07Real
import MenelausVerif.Props.C02Models
import MenelausVerif.Props.C18
import MenelausVerif.Props.C18Examples
import MenelausVerif.Model.KdqTree
import MenelausVerif.Model.KdqDetect
import MenelausVerif.Lemmas.KdqTree
import MenelausVerif.Lemmas.KdqArith
import MenelausVerif.Lemmas.KdqReal
import MenelausVerif.Lemmas.KdqStep
import MenelausVerif.Props.C08
import MenelausVerif.Props.C08Real
import MenelausVerif.Props.C08Examples
import MenelausVerif.Props.C09
import MenelausVerif.Props.C09Examples
import MenelausVerif.Props.C17Models
import MenelausVerif.Props.C17ModelsExamples
import MenelausVerif.Props.C17Adwin
import MenelausVerif.Model.Validate
import MenelausVerif.Model.Store
import MenelausVerif.Props.C14
import MenelausVerif.Props.C15
import MenelausVerif.Props.C02Kdq
import MenelausVerif.Props.C02Examples
import MenelausVerif.Props.C18Kdq
import MenelausVerif.Props.C18KdqExamples
import MenelausVerif.Props.C01More
import MenelausVerif.Props.C16More
import MenelausVerif.Props.C17Kdq
import MenelausVerif.Props.C17HDM
import MenelausVerif.Props.C17HDMExamples
import MenelausVerif.Props.C17LFR
import MenelausVerif.Props.C17LFRExamples
import MenelausVerif.Props.C02HDM
import MenelausVerif.Model.MD3Ref
import MenelausVerif.Props.C19Ref
import MenelausVerif.Props.C19RefExamples
import MenelausVerif.Model.HDMBoot
import MenelausVerif.Props.C07Boot
import MenelausVerif.Props.C09Floor
import MenelausVerif.Model.Scaler
import MenelausVerif.Props.C11Scaler
import MenelausVerif.Driver.Scaler
import MenelausVerif.Props.C03Reset
import MenelausVerif.Props.C04Reset
import MenelausVerif.Props.C05Max
import MenelausVerif.Props.C05Examples
