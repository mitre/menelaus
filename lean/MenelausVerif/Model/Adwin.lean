/-
  Model of menelaus/change_detection/adwin.py (`ADWIN.update`, `_add_sample`,
  `_compress_buckets`, `_shrink_window`, `_check_epsilon`, `_remove_last`, `mean`,
  `variance`) and menelaus/concept_drift/adwin_accuracy.py (`ADWINAccuracy.update`).
  Carrier-polymorphic, import-free.  Float operation order follows the code.

  Domain of the configuration (what the real code needs to run at all):
  `max_buckets ≥ 1` (with 0 the merge reads index 1 of a 1-element array),
  `new_sample_thresh ≥ 1` (`%` by zero raises).  The property additionally
  assumes `subwindow_size_thresh ≥ 1` (with 0 a split with an empty newer part
  divides 0/0) and `delta ∈ (0, 1]`.

  The bucket rows of the linked list are a `List` of rows, head row (`2^0`
  samples per bucket) first, each row oldest bucket first, each bucket
  `(total, variance)`.  The numpy arrays of a row have `max_buckets + 1` slots;
  `Props/C03.lean` (`rows_le`) proves that after every update each row of the model holds at most
  `max_buckets` buckets, so a row never needs more than its `max_buckets + 1` slots.
-/
import MenelausVerif.Base.Drift
import MenelausVerif.Base.Arith
namespace MV.Adwin

structure Cfg (α : Type) where
  delta : α
  maxBuckets : Nat
  newSampleThresh : Nat
  windowThresh : Nat
  subThresh : Nat
  conservative : Bool

/-- a bucket: `(bucket_totals[k], bucket_variances[k])` -/
abbrev Bucket (α : Type) := α × α
/-- `_bucket_row_list`: head row first; a row lists its buckets oldest first -/
abbrev Rows (α : Type) := List (List (Bucket α))

structure State (α : Type) where
  rows : Rows α
  /-- `_window_size` -/
  W : Nat
  /-- `total_samples` -/
  total : Nat
  /-- `_curr_total` -/
  sum : α
  /-- `_curr_variance` (sum of squared deviations, not yet divided by `W`) -/
  var : α
  drift : Drift
  recs : Recs

variable {α : Type} [Add α] [Sub α] [Mul α] [Div α] [Neg α] [LT α] [DecidableLT α]
  [NatCast α] [HasSqrt α] [HasLogExp α]

def init : State α :=
  { rows := [[]], W := 0, total := 0, sum := ((0 : Nat) : α), var := ((0 : Nat) : α),
    drift := .none, recs := Recs.empty }

/-! ### `_compress_buckets` -/

/-- the bucket that replaces the two oldest buckets of row `i` (Chan et al.) -/
def merge (i : Nat) (b0 b1 : Bucket α) : Bucket α :=
  let n : α := ((2 ^ i : Nat) : α)
  let mean1 := b0.1 / n
  let mean2 := b1.1 / n
  (b0.1 + b1.1, b0.2 + b1.2 + n * (mean1 - mean2) * (mean1 - mean2) / ((2 : Nat) : α))

/-- `row.add_bucket` of the bucket handed down by the previous row, if any -/
def addCarry (carry : Option (Bucket α)) (row : List (Bucket α)) : List (Bucket α) :=
  match carry with
  | none => row
  | some b => row ++ [b]

/-- the cascade from row `i` on; `carry` is the merged bucket of row `i-1` that
    `next_bucket_row.add_bucket` appends (a new tail row is created when there is
    no next row).  A row is full at `max_buckets + 1`; the loop stops at the
    first row that is not full. -/
def compress (M : Nat) : Nat → Option (Bucket α) → Rows α → Rows α
  | _, none, [] => []
  | _, some b, [] => [[b]]
  | i, carry, row :: rest =>
    let row1 := addCarry carry row
    if row1.length = M + 1 then
      match row1 with
      | b0 :: b1 :: row' => row' :: compress M (i + 1) (some (merge i b0 b1)) rest
      | _ => row1 :: rest
    else row1 :: rest

/-- `head.add_bucket(x, 0)` -/
def pushHead (x : α) : Rows α → Rows α
  | [] => [[(x, ((0 : Nat) : α))]]     -- unreachable: the row list is never empty (`SInv`, `Lemmas.AdwinStruct`)
  | row :: rest => (row ++ [(x, ((0 : Nat) : α))]) :: rest

/-- `_add_sample` (called after `_window_size += 1`, so `s.W` is the new size) -/
def addSample (M : Nat) (s : State α) (x : α) : State α :=
  let rows1 := pushHead x s.rows
  let var1 :=
    if s.W > 1 then
      s.var + ((s.W - 1 : Nat) : α) * (x - s.sum / ((s.W - 1 : Nat) : α))
                * (x - s.sum / ((s.W - 1 : Nat) : α)) / ((s.W : Nat) : α)
    else s.var
  { s with rows := compress M 0 none rows1, var := var1, sum := s.sum + x }

/-! ### `_remove_last` -/

/-- remove every trailing empty row -/
def trimAll : Rows α → Rows α
  | [] => []
  | r :: rest =>
    match trimAll rest with
    | [] => if r.isEmpty then [] else [r]
    | rest' => r :: rest'

/-- `while size > 1 and tail.bucket_count == 0: remove_tail()`: trailing empty rows go, the head row stays -/
def trimTail : Rows α → Rows α
  | [] => []
  | r :: rest => r :: trimAll rest

/-- drop the oldest bucket of the tail row; an emptied tail row is removed -/
def dropOldest : Rows α → Rows α
  | [] => []
  | [r] =>
    match r with
    | [] => [r]          -- unreachable (`bucket_count` would become -1): the tail row is never empty
    | [_] => []          -- `bucket_count == 0`: `remove_tail()`
    | _ :: r' => [r']
  | r :: rest => r :: dropOldest rest

/-- what the code reads as bucket 0 of the tail row (zero-filled slots when the row is empty) -/
def oldest (rows : Rows α) : Bucket α :=
  match rows.getLast? with
  | some (b :: _) => b
  | _ => (((0 : Nat) : α), ((0 : Nat) : α))

/-- `_remove_last`.  `W - n` is natural-number subtraction; `Props.C03.cut_no_underflow`
    shows `n < W` whenever the code gets here, so it agrees with Python's. -/
def removeLast (s : State α) : State α :=
  let b := oldest s.rows
  let n := 2 ^ (s.rows.length - 1)
  let W' := s.W - n
  let sum' := s.sum - b.1
  let meanCurr := b.1 / ((n : Nat) : α)
  let var' := s.var - (b.2 + ((n * W' : Nat) : α) * (meanCurr - sum' / ((W' : Nat) : α))
                * (meanCurr - sum' / ((W' : Nat) : α)) / ((n + W' : Nat) : α))
  let rows1 := dropOldest s.rows
  -- `remove_tail()` happened iff the row count went down; only then the `while` runs
  let rows2 := if rows1.length < s.rows.length then trimTail rows1 else rows1
  { s with rows := rows2, W := W', sum := sum', var := var' }

/-! ### `_check_epsilon` -/

def variance (s : State α) : α :=
  if s.W = 0 then ((0 : Nat) : α) else s.var / ((s.W : Nat) : α)

def mean (s : State α) : α :=
  if s.W = 0 then ((0 : Nat) : α) else s.sum / ((s.W : Nat) : α)

/-- `1/(n0 - k + 1) + 1/(n1 - k + 1)` (only evaluated when `n0, n1 ≥ k`) -/
def nHarmonic (k n0 n1 : Nat) : α :=
  ((1 : Nat) : α) / ((n0 - k + 1 : Nat) : α) + ((1 : Nat) : α) / ((n1 - k + 1 : Nat) : α)

/-- `eps_cut` of `_check_epsilon` for window variance `v`, window size `W` -/
def epsCut (c : Cfg α) (W : Nat) (v : α) (n0 n1 : Nat) : α :=
  let nh : α := nHarmonic c.subThresh n0 n1
  if c.conservative then
    let dpd := log (((4 : Nat) : α) * log ((W : Nat) : α) / c.delta)
    sqrt ((((1 : Nat) : α) / ((2 : Nat) : α)) * nh * dpd)
  else
    let dpd := log (((2 : Nat) : α) * log ((W : Nat) : α) / c.delta)
    sqrt ((((2 : Nat) : α) * nh) * v * dpd)
      + ((1 : Nat) : α) * (((2 : Nat) : α) / ((3 : Nat) : α)) * nh * dpd

/-- `1.0 * (total0/n0 - total1/n1)` -/
def windowDiff (n0 : Nat) (t0 : α) (n1 : Nat) (t1 : α) : α :=
  ((1 : Nat) : α) * (t0 / ((n0 : Nat) : α) - t1 / ((n1 : Nat) : α))

/-- `_check_epsilon`: `absolute(window_diff) > eps_cut` (False when either side is NaN) -/
def checkEps (c : Cfg α) (s : State α) (n0 : Nat) (t0 : α) (n1 : Nat) (t1 : α) : Bool :=
  decide (epsCut c s.W (variance s) n0 n1 < absOf (windowDiff n0 t0 n1 t1))

/-! ### `_shrink_window` -/

/-- the traversal order of one scan: tail row → head row, inside a row index 0 upwards,
    i.e. oldest bucket first; each bucket with its row position -/
def flatFrom : Nat → Rows α → List (Nat × Bucket α)
  | _, [] => []
  | i, row :: rest => flatFrom (i + 1) rest ++ row.map (fun b => (i, b))

def flat (rows : Rows α) : List (Nat × Bucket α) := flatFrom 0 rows

/-- one scan of the inner `while`/`for` loops from the state `(n0, n1, t0, t1)`;
    `true` iff it reaches an admissible split whose `_check_epsilon` holds.
    The scan ends without a hit at the youngest bucket (last bucket of row 0);
    when row 0 is empty (possible with `max_buckets = 1`) the last bucket is
    tested like any other, with an empty newer part. -/
def scan (c : Cfg α) (s : State α) : Nat → Nat → α → α → List (Nat × Bucket α) → Bool
  | _, _, _, _, [] => false
  | n0, n1, t0, t1, (i, b) :: rest =>
    let n0' := n0 + 2 ^ i
    let n1' := n1 - 2 ^ i
    let t0' := t0 + b.1
    let t1' := t1 - b.1
    if i = 0 ∧ rest.isEmpty then false
    else if c.subThresh ≤ n0' ∧ c.subThresh ≤ n1' ∧ checkEps c s n0' t0' n1' t1' then true
    else scan c s n0' n1' t0' t1' rest

/-- does a scan of the current window find a cut? -/
def hit (c : Cfg α) (s : State α) : Bool :=
  scan c s 0 s.W ((0 : Nat) : α) s.sum (flat s.rows)

/-- the body executed on a hit: `drift_state = "drift"`, `_remove_last()`, `retraining_recs` -/
def cut (s : State α) : State α :=
  let s' := removeLast s
  { s' with drift := .drift, recs := (some (s'.total - s'.W), some (s'.total - 1)) }

/-- the outer `while start_from_empty_subwindow` loop.  Every hit removes one
    bucket, so the number of buckets is enough fuel (`Props.C03.shrink_settles`).
    (The code's guard `_window_size > 0` before `_remove_last` always holds here:
    `W` was incremented in this update and a cut leaves `n1 ≥ 1` samples.) -/
def shrinkLoop (c : Cfg α) : Nat → State α → State α
  | 0, s => s
  | fuel + 1, s => if hit c s then shrinkLoop c fuel (cut s) else s

/-- the schedule guard of `_shrink_window` -/
def scheduled (c : Cfg α) (s : State α) : Bool :=
  s.total % c.newSampleThresh = 0 ∧ s.W > c.windowThresh

def shrink (c : Cfg α) (s : State α) : State α :=
  if scheduled c s then shrinkLoop c (flat s.rows).length s else s

/-! ### `update` -/

/-- `reset()`: only the drift state and the recommendations -/
def reset (s : State α) : State α := { s with drift := .none, recs := Recs.empty }

def step (c : Cfg α) (s : State α) (x : α) : State α :=
  let s0 := if s.drift ≠ .none then reset s else s
  let s1 := { s0 with total := s0.total + 1, W := s0.W + 1 }
  shrink c (addSample c.maxBuckets s1 x)

def run (c : Cfg α) (xs : List α) : State α := xs.foldl (step c) init

end MV.Adwin

/-! ### ADWINAccuracy -/
namespace MV.AdwinAcc
open MV.Adwin

variable {α : Type} [Add α] [Sub α] [Mul α] [Div α] [Neg α] [LT α] [DecidableLT α]
  [NatCast α] [HasSqrt α] [HasLogExp α]

/-- `int(y_true == y_pred)` -/
def indicator {β : Type} [DecidableEq β] (yt yp : β) : α :=
  if yt = yp then ((1 : Nat) : α) else ((0 : Nat) : α)

/-- `ADWINAccuracy.update(y_true, y_pred)`: ADWIN, with the constructor parameters
    given, on the agreement indicator -/
def step {β : Type} [DecidableEq β] (c : Cfg α) (s : State α) (y : β × β) : State α :=
  Adwin.step c s (indicator y.1 y.2)

def run {β : Type} [DecidableEq β] (c : Cfg α) (ys : List (β × β)) : State α :=
  ys.foldl (step c) init

end MV.AdwinAcc
