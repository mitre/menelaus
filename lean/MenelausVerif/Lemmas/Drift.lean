/-
  The case analyses on the three drift states (`Base/Drift.lean`) that the models' `if … then .drift else …`
  decisions call for.
-/
import MenelausVerif.Base.Drift

namespace MV.Drift

theorem eq_none_of_ne {d : Drift} (hw : d ≠ .warning) (hd : d ≠ .drift) : d = .none := by
  cases d
  · rfl
  · exact absurd rfl hw
  · exact absurd rfl hd

theorem ite_eq_drift (A : Prop) [Decidable A] (d : Drift) :
    (if A then Drift.drift else d) = .drift ↔ A ∨ d = .drift := by
  split
  · rename_i h; exact ⟨fun _ => Or.inl h, fun _ => rfl⟩
  · rename_i h; exact ⟨Or.inr, fun h' => h'.resolve_left h⟩

/-- the three-way decision `drift if A, else warning if B, else None`, read state by state -/
theorem table (A B : Prop) [Decidable A] [Decidable B] :
    ((if A then Drift.drift else if B then .warning else .none) = .drift ↔ A) ∧
    ((if A then Drift.drift else if B then .warning else .none) = .warning ↔ ¬ A ∧ B) ∧
    ((if A then Drift.drift else if B then .warning else .none) = .none ↔ ¬ A ∧ ¬ B) := by
  by_cases hA : A
  · simp [hA]
  · by_cases hB : B <;> simp [hA, hB]

end MV.Drift
