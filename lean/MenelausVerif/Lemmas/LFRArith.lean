/-
  Linear Four Rates over a field: the model's constants and `powNat` are the field's, `sort` sorts, numpy's
  two-branch `_lerp` is the linear interpolation.  Shared by `Props/C06.lean` and by the monotonicity of
  `percentile` in `Props/C17LFR.lean`.
-/
import MenelausVerif.Model.LFR
import MenelausVerif.Lemmas.Carrier
namespace MV.LFR

theorem sort_spec {K : Type} [LinearOrder K] (l : List K) : (sort l).Perm l ∧ (sort l).Pairwise (· ≤ ·) :=
  insertionSort_spec (ins := insertSorted) (fun _ => rfl) (fun _ _ _ => rfl) l

variable {K : Type} [Field K]

theorem one_eq : (one : K) = 1 := by simp [one]
theorem zero_eq : (zero : K) = 0 := by simp [zero]
theorem half_eq : (half : K) = 1 / 2 := by simp [half]

theorem powNat_eq (x : K) (k : ℕ) : powNat x k = x ^ k := by
  induction k with
  | zero => simp [powNat, one_eq]
  | succ k ih => rw [powNat, ih, pow_succ]

variable [LinearOrder K]

theorem lerp_linear (a b t : K) : lerp a b t = a + (b - a) * t := by
  unfold lerp
  split
  · rw [one_eq]; ring
  · rfl

variable [IsStrictOrderedRing K]

theorem lerp_mono {a b t t' : K} (hab : a ≤ b) (h : t ≤ t') : lerp a b t ≤ lerp a b t' := by
  rw [lerp_linear, lerp_linear]
  exact add_le_add_right (mul_le_mul_of_nonneg_left h (sub_nonneg.2 hab)) a

/-- `_lerp` stays between the two values it interpolates: they are its values at 0 and at 1 -/
theorem lerp_mem (a b t : K) (hab : a ≤ b) (h0 : 0 ≤ t) (h1 : t ≤ 1) :
    a ≤ lerp a b t ∧ lerp a b t ≤ b := by
  have e0 : lerp a b 0 = a := by rw [lerp_linear, mul_zero, add_zero]
  have e1 : lerp a b 1 = b := by rw [lerp_linear, mul_one, add_sub_cancel]
  exact ⟨e0.symm.trans_le (lerp_mono hab h0), (lerp_mono hab h1).trans_eq e1⟩

end MV.LFR
