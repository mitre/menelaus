/-
  Lemmas for C10 that use no arithmetic law of the carrier: the rows of the weight
  matrix, `np.dot(v, M)` as column sums, what the k-NN validation checks of one row.
-/
import MenelausVerif.Model.NNSP
import Mathlib.Algebra.Order.BigOperators.Group.List
import Mathlib.Algebra.Order.Group.Nat
namespace MV.NNSP

theorem foldl_lcm_const (k : Nat) (ws : List Nat) (h : ∀ w ∈ ws, w = k) (acc : Nat) :
    ws.foldl Nat.lcm acc = if ws = [] then acc else Nat.lcm acc k := by
  induction ws generalizing acc with
  | nil => simp
  | cons w ws ih =>
    obtain rfl : w = k := h w (by simp)
    rw [List.foldl_cons, ih (fun x hx => h x (by simp [hx]))]
    simp

theorem map_zip_map_self {β γ δ : Type} (f : β → γ) (g : γ × β → δ) (l : List β) :
    (List.zip (l.map f) l).map g = l.map (fun x => g (f x, x)) := by
  induction l with
  | nil => simp
  | cons x xs ih => simp [ih]

theorem nnpsMatrix_rows (adj : List (List Bool)) :
    nnpsMatrix adj = adj.map (fun row => row.map (fun b =>
      lcmAll (adj.map (·.count true)) / row.count true * (if b then 1 else 0))) := by
  simp only [nnpsMatrix, rowSums]
  rw [map_zip_map_self]

/-- declarative column sum: Σ_i v[i]·M[i][j] -/
def colSum (v : List Bool) (M : List (List Nat)) (j : Nat) : Nat :=
  ((List.zip v M).map (fun x => if x.1 then x.2.getD j 0 else 0)).sum

theorem foldl_vec_spec (n j : Nat) (hj : j < n) (l : List (Bool × List Nat)) (hl : ∀ x ∈ l, x.2.length = n)
    (acc : List Nat) (hacc : acc.length = n) :
    (l.foldl (fun acc x => if x.1 then List.zipWith (· + ·) acc x.2 else acc) acc).getD j 0 =
      acc.getD j 0 + (l.map (fun x => if x.1 then x.2.getD j 0 else 0)).sum := by
  induction l generalizing acc with
  | nil => simp
  | cons x xs ih =>
    simp only [List.foldl_cons, List.map_cons, List.sum_cons]
    have hx : x.2.length = n := hl x (by simp)
    have hxs : ∀ y ∈ xs, y.2.length = n := fun y hy => hl y (by simp [hy])
    by_cases hb : x.1 = true
    · simp only [hb, if_true]
      rw [ih hxs _ (by simp [List.length_zipWith, hacc, hx])]
      have : (List.zipWith (· + ·) acc x.2).getD j 0 = acc.getD j 0 + x.2.getD j 0 := by
        simp only [List.getD_eq_getElem?_getD, List.getElem?_zipWith]
        rw [List.getElem?_eq_getElem (hacc ▸ hj : j < acc.length), List.getElem?_eq_getElem (hx ▸ hj : j < x.2.length)]
        simp
      rw [this]; exact Nat.add_assoc ..
    · simp only [hb, Bool.false_eq_true, if_false]
      rw [ih hxs _ hacc]; simp

theorem vecMat_spec (v : List Bool) (M : List (List Nat)) (n : Nat) (hrows : ∀ row ∈ M, row.length = n)
    (j : Nat) (hj : j < n) : (vecMat v M n).getD j 0 = colSum v M j := by
  unfold vecMat colSum
  rw [foldl_vec_spec n j hj _ (fun x hx => hrows x.2 (List.of_mem_zip hx).2) _ (by simp)]
  simp [hj]

theorem vecMat_length_le (v : List Bool) (M : List (List Nat)) (n : Nat) : (vecMat v M n).length ≤ n := by
  unfold vecMat
  refine List.foldlRecOn (motive := fun acc : List Nat => acc.length ≤ n) _ _ (List.length_replicate ..).le
    fun acc h x _ => ?_
  split
  · exact (List.length_zipWith ..).le.trans ((Nat.min_le_left ..).trans h)
  · exact h

theorem getElem?_of_getD_true (l : List Bool) (j : Nat) (h : l.getD j false = true) : l[j]? = some true := by
  rw [List.getD_eq_getElem?_getD] at h
  cases hj : l[j]? with
  | none => simp [hj] at h
  | some b => simp [hj] at h; simp [h]

theorem colSum_ge (v : List Bool) (M : List (List Nat)) (j i : Nat) (hv : v.getD i false = true) (row : List Nat)
    (hM : M[i]? = some row) : row.getD j 0 ≤ colSum v M j := by
  unfold colSum
  refine List.le_sum_of_mem (List.mem_map.mpr ⟨(true, row), ?_, rfl⟩)
  rw [List.mem_iff_getElem?]
  exact ⟨i, List.getElem?_zip_eq_some.mpr ⟨getElem?_of_getD_true v i hv, hM⟩⟩

/-- the pairs (mark, distance) that `rowOk` compares are those of the same index -/
theorem mem_zip_map {γ β : Type} {f : γ → β} {arow : List Bool} {D : List γ} (hlen : arow.length = D.length)
    (x : Bool × β) :
    x ∈ List.zip arow (D.map f) ↔ ∃ j, ∃ hj : j < D.length, x = (arow.getD j false, f D[j]) := by
  simp only [List.mem_iff_getElem, List.length_zip, List.length_map, hlen, Nat.min_self, List.getElem_zip,
    List.getElem_map]
  exact exists_congr fun j => exists_congr fun hj => by
    rw [List.getElem_eq_getD false, eq_comm]

section Knn
variable {α : Type} [LT α] [DecidableLT α] [Add α] [Sub α] [Mul α] [NatCast α]

theorem rowOk_iff (k : Nat) (D : List (Row α)) (p : Row α) (i : Nat) (arow : List Bool) :
    rowOk k D p i arow = true ↔
    arow.length = D.length ∧ arow.count true = k ∧ arow.getD i false = true ∧
    ∀ j l (hj : j < D.length) (hl : l < D.length), arow.getD j false = true → arow.getD l false = false →
      ¬ sqDist p D[l] < sqDist p D[j] := by
  unfold rowOk
  simp only [Bool.and_eq_true, beq_iff_eq, List.all_eq_true, Bool.not_eq_true', decide_eq_false_iff_not,
    List.mem_map, List.mem_filter, and_assoc]
  refine and_congr_right fun hlen => and_congr_right fun _ => and_congr_right fun _ => ?_
  simp only [mem_zip_map hlen]
  constructor
  · intro hall j l hj hl hjt hlf
    exact hall _ ⟨_, ⟨j, hj, rfl⟩, hjt, rfl⟩ _ ⟨_, ⟨l, hl, rfl⟩, hlf, rfl⟩
  · rintro hall _ ⟨_, ⟨j, hj, rfl⟩, hjt, rfl⟩ _ ⟨_, ⟨l, hl, rfl⟩, hlf, rfl⟩
    exact hall j l hj hl hjt hlf

end Knn

end MV.NNSP
