/-
  Trace semantics of the counters and of `retraining_recs` for detectors that are
  driven by one `Bool` per update and reset themselves on the update after a drift.

  Generic in the state type: a detector supplies its observable projections
  (`Obs`) and proves *local* (one-step) rules; this file turns them, by induction
  over arbitrary histories and across epochs, into statements about whole
  histories: where the current epoch starts (`EpochSem`), which index `retraining_recs[0]`
  holds (first warning/drift index of the epoch — DDM, EDDM: `FirstSem`; start of the current
  uninterrupted warning/drift run — STEPD: `RunSem`) and when `retraining_recs[1]` is set.
  What the two recommendation rules keep is proved for an arbitrary sequence of states
  (`FirstIn.snoc`, `RunIn.snoc`); a history contributes where its epoch starts (`start_snoc`)
  and that a further update leaves the states reported earlier alone (`stateAt_snoc_lt`).

  Induction over a history: `run_induction` for a predicate of the state that every update keeps;
  for a detector whose update is `core` after the optional reset, `reset_induction` (kept by `core`,
  established by `reset`) and `epoch_induction` (the same for a relation between the state and the
  samples of its current epoch); `snoc_induction` with `run_snoc` where the statement speaks of the
  history itself.  `step init o` are explicit arguments of the semantics theorems (`epochSem`,
  `firstSem`, `runSem`, `FirstSem.iff`, `epoch_length`) and of `reset_induction` /
  `epoch_induction`, implicit everywhere else.  A model's `run c xs` is `run (step c) init xs` by
  `rfl` (`run_eq`, with the instances `*_epoch`, in `Lemmas/ErrSteps`): everything here applies to
  it by `exact`, while `rw` with a statement from here does not find the model's spelling.

  No Mathlib; nothing here depends on the numeric carrier, and no proof looks at an input.
-/
import MenelausVerif.Base.Drift
import MenelausVerif.Model.ErrRecs
namespace MV

theorem incRecsFirst_fst_some (st : Drift) (k : Nat) {r : Recs} {a : Nat} (h : r.1 = some a) :
    (incRecsFirst st k r).1 = some a := by
  obtain ⟨_, _⟩ := r
  cases h; cases st <;> rfl

theorem incRecsFirst_fst_none (st : Drift) (k : Nat) {r : Recs} (h : r.1 = none) :
    (incRecsFirst st k r).1 = if st = .none then none else some k := by
  obtain ⟨_, _⟩ := r
  cases h; cases st <;> rfl

theorem incRecsFirst_snd (st : Drift) (k : Nat) (r : Recs) :
    (incRecsFirst st k r).2 = if st = .drift then some k else r.2 := by
  obtain ⟨a, _⟩ := r
  cases st <;> cases a <;> rfl

theorem incRecsFirst_fst_ne_none {st : Drift} (h : st ≠ .none) (k : Nat) (r : Recs) :
    (incRecsFirst st k r).1 ≠ none := by
  cases h1 : r.1 with
  | none => rw [incRecsFirst_fst_none st k h1, if_neg h]; nofun
  | some a => rw [incRecsFirst_fst_some st k h1]; nofun

theorem incRecsFirst_eq_self {st : Drift} (hd : st ≠ .drift) {r : Recs} (hw : st = .warning → r.1 ≠ none)
    (k : Nat) : incRecsFirst st k r = r := by
  obtain ⟨a, b⟩ := r
  cases st with
  | none => rfl
  | warning => cases a with
    | none => exact absurd rfl (hw rfl)
    | some a => rfl
  | drift => exact absurd rfl hd

end MV
namespace MV.ErrTrace
open MV

structure Obs (σ : Type) where
  drift : σ → Drift
  total : σ → Nat
  since : σ → Nat
  recs : σ → Recs

theorem snoc_induction {β : Type} {P : List β → Prop} (nil : P [])
    (snoc : ∀ xs x, P xs → P (xs ++ [x])) : ∀ xs, P xs := by
  intro xs
  have h : ∀ ys : List β, P ys.reverse := by
    intro ys
    induction ys with
    | nil => simpa using nil
    | cons y ys ih => simpa using snoc _ y ih
  simpa using h xs.reverse

section
variable {σ : Type} (step : σ → Bool → σ) (init : σ) (o : Obs σ)

def run (xs : List Bool) : σ := xs.foldl step init

/-- `drift_state` reported after update number `j` (0-based) of the history `xs` -/
def stateAt (xs : List Bool) (j : Nat) : Drift := o.drift (run step init (xs.take (j + 1)))

variable {step init o}

@[simp] theorem run_nil : run step init [] = init := rfl

theorem run_snoc (xs : List Bool) (x : Bool) :
    run step init (xs ++ [x]) = step (run step init xs) x := by
  simp [run, List.foldl_append]

theorem run_induction (P : σ → Prop) (hs : ∀ s x, P s → P (step s x)) (h0 : P init) :
    ∀ xs, P (run step init xs) :=
  fun xs => List.foldlRecOn xs step h0 fun s h x _ => hs s x h

theorem stateAt_snoc_lt (xs : List Bool) (x : Bool) (j : Nat) (h : j < xs.length) :
    stateAt step init o (xs ++ [x]) j = stateAt step init o xs j := by
  unfold stateAt
  rw [List.take_append_of_le_length h]

theorem stateAt_snoc_eq (xs : List Bool) (x : Bool) :
    stateAt step init o (xs ++ [x]) xs.length = o.drift (step (run step init xs) x) := by
  unfold stateAt
  rw [List.take_of_length_le (by simp), run_snoc]

theorem stateAt_last {xs : List Bool} {j : Nat} (h : j + 1 = xs.length) :
    stateAt step init o xs j = o.drift (run step init xs) := by
  unfold stateAt
  rw [h, List.take_length]

variable (step init o)

structure Counters : Prop where
  total0 : o.total init = 0
  since0 : o.since init = 0
  drift0 : o.drift init = .none
  recs0 : o.recs init = Recs.empty
  total : ∀ s x, o.total (step s x) = o.total s + 1
  since : ∀ s x, o.since (step s x) = (if o.drift s = .drift then 0 else o.since s) + 1

/-- what the counters mean on a whole history: `total` is its length and the last
    `since` updates form the current epoch — it begins right after the latest
    earlier drift (or at the very beginning) and contains no drift before its last
    position. -/
structure EpochSem (xs : List Bool) : Prop where
  total : o.total (run step init xs) = xs.length
  since_le : o.since (run step init xs) ≤ xs.length
  since_pos : xs ≠ [] → 1 ≤ o.since (run step init xs)
  inside : ∀ j, xs.length - o.since (run step init xs) ≤ j → j + 1 < xs.length →
    stateAt step init o xs j ≠ .drift
  begin_ : xs.length - o.since (run step init xs) = 0 ∨
    stateAt step init o xs (xs.length - o.since (run step init xs) - 1) = .drift

variable {step init o} in
/-- where the epoch starts after one more update: at that update if the state was `drift`, else
    where it started before -/
theorem start_snoc (h : Counters step init o) (xs : List Bool) (x : Bool) :
    (xs ++ [x]).length - o.since (run step init (xs ++ [x])) =
      if o.drift (run step init xs) = .drift then xs.length else xs.length - o.since (run step init xs) := by
  rw [run_snoc, h.since, List.length_append]
  split
  · exact Nat.add_sub_add_right xs.length 1 0
  · exact Nat.add_sub_add_right ..

theorem epochSem (h : Counters step init o) : ∀ xs, EpochSem step init o xs := by
  apply snoc_induction
  · exact ⟨by rw [run_nil, h.total0]; rfl, by rw [run_nil, h.since0]; exact Nat.le_refl _,
      fun hne => absurd rfl hne, fun j _ hj => absurd hj (Nat.not_lt_zero _), Or.inl (Nat.zero_sub _)⟩
  · intro xs x ih
    have hs := h.since (run step init xs) x
    have hlen : (xs ++ [x]).length = xs.length + 1 := List.length_append
    refine ⟨by rw [run_snoc, h.total, ih.total, hlen], ?_, fun _ => by rw [run_snoc, hs]; exact Nat.le_add_left 1 _,
      ?_, ?_⟩
    · rw [run_snoc, hs, hlen]
      apply Nat.succ_le_succ
      split
      · exact Nat.zero_le _
      · exact ih.since_le
    · rw [start_snoc h]
      intro j h1 h2
      have hj : j < xs.length := Nat.lt_of_succ_lt_succ (hlen ▸ h2 : j + 1 < xs.length + 1)
      rw [stateAt_snoc_lt xs x j hj]
      split at h1
      · exact absurd hj (Nat.not_lt.2 h1)
      · rename_i hd
        by_cases hj' : j + 1 < xs.length
        · exact ih.inside j h1 hj'
        · rw [stateAt_last (Nat.le_antisymm hj (Nat.le_of_not_lt hj'))]
          exact hd
    · rw [start_snoc h]
      split
      · rename_i hd
        rcases Nat.eq_zero_or_pos xs.length with h0 | hp
        · exact Or.inl h0
        · right
          rw [stateAt_snoc_lt xs x _ (Nat.sub_lt hp Nat.one_pos), stateAt_last (Nat.sub_add_cancel hp)]
          exact hd
      · rcases ih.begin_ with h0 | hb
        · exact Or.inl h0
        · by_cases h0 : xs.length - o.since (run step init xs) = 0
          · exact Or.inl h0
          · right
            rw [stateAt_snoc_lt xs x _
              (Nat.lt_of_lt_of_le (Nat.sub_lt (Nat.pos_of_ne_zero h0) Nat.one_pos) (Nat.sub_le _ _))]
            exact hb

/-- the inputs of the current epoch: the last `since` samples -/
def epoch (xs : List Bool) : List Bool := xs.drop (xs.length - o.since (run step init xs))

theorem epoch_length (h : Counters step init o) (xs : List Bool) :
    (epoch step init o xs).length = o.since (run step init xs) := by
  rw [epoch, List.length_drop]
  exact Nat.sub_sub_self (epochSem step init o h xs).since_le

variable {step init o} in
theorem epoch_snoc (h : Counters step init o) (xs : List Bool) (x : Bool) :
    epoch step init o (xs ++ [x]) =
      (if o.drift (run step init xs) = .drift then [] else epoch step init o xs) ++ [x] := by
  unfold epoch
  rw [start_snoc h]
  split
  · exact List.drop_left
  · exact List.drop_append_of_le_length (Nat.sub_le _ _)

/-- **Epoch induction.**  For a detector whose update is `core` applied to the state after the
    optional reset: a relation between the state and the samples of the current epoch that is kept
    by `core` and holds after a reset and initially (with no samples) holds after every history. -/
theorem epoch_induction (h : Counters step init o) (core : σ → Bool → σ) (reset : σ → σ)
    (hstep : ∀ s x, step s x = core (if o.drift s = .drift then reset s else s) x)
    (P : σ → List Bool → Prop) (hc : ∀ s ep x, P s ep → P (core s x) (ep ++ [x]))
    (hr : ∀ s, P (reset s) []) (h0 : P init []) :
    ∀ xs, P (run step init xs) (epoch step init o xs) := by
  apply snoc_induction
  · simpa [epoch] using h0
  · intro xs x ih
    rw [epoch_snoc h, run_snoc, hstep]
    split
    · exact hc _ _ x (hr _)
    · exact hc _ _ x ih

/-- the same for a property of the state alone -/
theorem reset_induction (core : σ → Bool → σ) (reset : σ → σ)
    (hstep : ∀ s x, step s x = core (if o.drift s = .drift then reset s else s) x)
    (P : σ → Prop) (hc : ∀ s x, P s → P (core s x)) (hr : ∀ s, P (reset s)) (h0 : P init) :
    ∀ xs, P (run step init xs) :=
  run_induction P (fun s x hs => by
    rw [hstep]; split
    · exact hc _ x (hr s)
    · exact hc _ x hs) h0

/-- local rule of DDM and EDDM, under a detector-specific step invariant `Inv` -/
structure FirstRule (Inv : σ → Prop) : Prop where
  inv0 : Inv init
  inv : ∀ s x, Inv s → Inv (step s x)
  recs : ∀ s x, Inv s → o.recs (step s x) =
    incRecsFirst (o.drift (step s x)) (o.total s)
      (if o.drift s = .drift then Recs.empty else o.recs s)

variable {step init o} in
theorem FirstRule.inv_run {Inv : σ → Prop} (r : FirstRule step init o Inv) :
    ∀ xs, Inv (run step init xs) :=
  run_induction Inv r.inv r.inv0

/-- `a` is the first position in `[st, n)` whose state `f` is not `None` (`none`: there is none) -/
def FirstIn (f : Nat → Drift) (st n : Nat) (a : Option Nat) : Prop :=
  (a = none → ∀ j, st ≤ j → j < n → f j = .none) ∧
  ∀ i, a = some i → st ≤ i ∧ i < n ∧ f i ≠ .none ∧ ∀ j, st ≤ j → j < i → f j = .none

theorem FirstIn.empty (f : Nat → Drift) (n : Nat) : FirstIn f n n none :=
  ⟨fun _ _ h1 h2 => absurd h2 (Nat.not_lt.2 h1), nofun⟩

/-- the rule of DDM and EDDM keeps it, when position `n` is appended with state `g n` -/
theorem FirstIn.snoc {f g : Nat → Drift} {st n : Nat} {r : Recs} (h : FirstIn f st n r.1) (hst : st ≤ n)
    (hfg : ∀ j, j < n → g j = f j) : FirstIn g st (n + 1) (incRecsFirst (g n) n r).1 := by
  cases ha : r.1 with
  | some a =>
    obtain ⟨a1, a2, a3, a4⟩ := h.2 a ha
    rw [incRecsFirst_fst_some _ _ ha]
    refine ⟨nofun, fun i hi => ?_⟩
    cases hi
    exact ⟨a1, Nat.lt_succ_of_lt a2, hfg a a2 ▸ a3,
      fun j j1 j2 => (hfg j (Nat.lt_trans j2 a2)).trans (a4 j j1 j2)⟩
  | none =>
    have old : ∀ j, st ≤ j → j < n → g j = .none := fun j j1 j2 => (hfg j j2).trans (h.1 ha j j1 j2)
    rw [incRecsFirst_fst_none _ _ ha]
    split
    · rename_i hn
      refine ⟨fun _ j j1 j2 => ?_, nofun⟩
      rcases Nat.lt_succ_iff_lt_or_eq.1 j2 with j2 | rfl
      · exact old j j1 j2
      · exact hn
    · rename_i hn
      refine ⟨nofun, fun i hi => ?_⟩
      cases hi
      exact ⟨hst, Nat.lt_succ_self n, hn, old⟩

/-- `retraining_recs[0]` is the index of the first update of the current epoch after
    which the state was `warning` or `drift` (`None` when there was none);
    `retraining_recs[1]` is set exactly while the state is `drift`, to the index of
    that update. -/
structure FirstSem (xs : List Bool) : Prop where
  none_ : (o.recs (run step init xs)).1 = none →
    ∀ j, xs.length - o.since (run step init xs) ≤ j → j < xs.length → stateAt step init o xs j = .none
  some_ : ∀ i, (o.recs (run step init xs)).1 = some i →
    xs.length - o.since (run step init xs) ≤ i ∧ i < xs.length ∧ stateAt step init o xs i ≠ .none ∧
    ∀ j, xs.length - o.since (run step init xs) ≤ j → j < i → stateAt step init o xs j = .none
  snd : ∀ i, (o.recs (run step init xs)).2 = some i ↔
    (o.drift (run step init xs) = .drift ∧ i + 1 = xs.length)

variable {step init o} in
theorem FirstSem.of {xs : List Bool}
    (first : FirstIn (stateAt step init o xs) (xs.length - o.since (run step init xs)) xs.length
      (o.recs (run step init xs)).1)
    (snd : ∀ i, (o.recs (run step init xs)).2 = some i ↔
      (o.drift (run step init xs) = .drift ∧ i + 1 = xs.length)) :
    FirstSem step init o xs :=
  ⟨first.1, first.2, snd⟩

theorem firstSem {Inv : σ → Prop} (h : Counters step init o) (r : FirstRule step init o Inv) :
    ∀ xs, FirstSem step init o xs := by
  apply snoc_induction
  · refine ⟨fun _ j _ hj => absurd hj (Nat.not_lt_zero j), fun i hi => ?_, fun i => ?_⟩
    · rw [run_nil, h.recs0] at hi; cases hi
    · rw [run_nil, h.recs0, h.drift0]; exact ⟨nofun, fun e => nomatch e.1⟩
  · intro xs x ih
    have hr := r.recs (run step init xs) x (r.inv_run xs)
    rw [(epochSem step init o h xs).total] at hr
    refine FirstSem.of ?_ fun i => ?_
    · -- the first index, in the epoch the update continues or opens
      rw [start_snoc h, run_snoc, hr, List.length_append, ← stateAt_snoc_eq (o := o) xs x]
      split
      · exact (FirstIn.empty _ _).snoc (Nat.le_refl _) (stateAt_snoc_lt xs x)
      · exact FirstIn.snoc ⟨ih.none_, ih.some_⟩ (Nat.sub_le _ _) (stateAt_snoc_lt xs x)
    · -- the second component was empty before the update
      have hC : (if o.drift (run step init xs) = .drift then Recs.empty else o.recs (run step init xs)).2 = none := by
        split
        · rfl
        · rename_i hd
          cases hb : (o.recs (run step init xs)).2 with
          | none => rfl
          | some i => exact absurd ((ih.snd i).mp hb).1 hd
      rw [run_snoc, hr, incRecsFirst_snd, hC, List.length_append]
      split
      · rename_i hd; simp [hd, eq_comm]
      · rename_i hd; exact ⟨nofun, fun e => absurd e.1 hd⟩

/-- `retraining_recs[0] = i` **iff** `i` is the first index of the current epoch with a
    non-`None` state -/
theorem FirstSem.iff {xs : List Bool} (F : FirstSem step init o xs) (i : Nat) :
    (o.recs (run step init xs)).1 = some i ↔
      (xs.length - o.since (run step init xs) ≤ i ∧ i < xs.length ∧ stateAt step init o xs i ≠ .none ∧
       ∀ j, xs.length - o.since (run step init xs) ≤ j → j < i → stateAt step init o xs j = .none) := by
  constructor
  · exact F.some_ i
  · intro ⟨h1, h2, h3, h4⟩
    cases ha : (o.recs (run step init xs)).1 with
    | none => exact absurd (F.none_ ha i h1 h2) h3
    | some a =>
      obtain ⟨g1, g2, g3, g4⟩ := F.some_ a ha
      by_cases hlt : i < a
      · exact absurd (g4 i h1 hlt) h3
      · by_cases hgt : a < i
        · exact absurd (h4 a g1 hgt) g3
        · rw [Nat.le_antisymm (Nat.le_of_not_lt hlt) (Nat.le_of_not_lt hgt)]

/-- local rule of STEPD, under a detector-specific step invariant `Inv` -/
structure RunRule (Inv : σ → Prop) : Prop where
  inv0 : Inv init
  inv : ∀ s x, Inv s → Inv (step s x)
  recs_none : ∀ s x, Inv s → o.drift (step s x) = .none → o.recs (step s x) = Recs.empty
  recs_some : ∀ s x, Inv s → o.drift (step s x) ≠ .none → o.recs (step s x) =
    incRecsRun (o.total s) (if o.drift s = .drift then Recs.empty else o.recs s)

variable {step init o} in
theorem RunRule.inv_run {Inv : σ → Prop} (r : RunRule step init o Inv) :
    ∀ xs, Inv (run step init xs) :=
  run_induction Inv r.inv r.inv0

/-- `r` is `[None, None]` while the latest state `d` is `None`; otherwise it is `[a, n - 1]`, where
    `[a, n)` is the uninterrupted run of non-`None` states `f` that ends `[st, n)` -/
def RunIn (f : Nat → Drift) (st n : Nat) (d : Drift) (r : Recs) : Prop :=
  (d = .none → r = Recs.empty) ∧
  (d ≠ .none → ∃ a, r = (some a, some (n - 1)) ∧ st ≤ a ∧ a < n ∧
    (∀ j, a ≤ j → j < n → f j ≠ .none) ∧ (a = st ∨ f (a - 1) = .none))

theorem RunIn.empty (f : Nat → Drift) (n : Nat) : RunIn f n n .none Recs.empty :=
  ⟨fun _ => rfl, fun h => absurd rfl h⟩

/-- the rule of STEPD keeps it, when position `n` is appended with state `g n` -/
theorem RunIn.snoc {f g : Nat → Drift} {st n : Nat} {d : Drift} {r r' : Recs} (h : RunIn f st n d r)
    (hst : st ≤ n) (hfg : ∀ j, j < n → g j = f j) (hlast : st < n → f (n - 1) = d)
    (hnone : g n = .none → r' = Recs.empty) (hsome : g n ≠ .none → r' = incRecsRun n r) :
    RunIn g st (n + 1) (g n) r' := by
  refine ⟨hnone, fun hd' => ?_⟩
  have new : ∀ j, n ≤ j → j < n + 1 → g j ≠ .none := fun j j1 j2 =>
    Nat.le_antisymm (Nat.le_of_lt_succ j2) j1 ▸ hd'
  rw [hsome hd']
  by_cases hd : d = .none
  · -- a run begins at `n`
    rw [h.1 hd]
    refine ⟨n, rfl, hst, Nat.lt_succ_self n, new, ?_⟩
    rcases Nat.eq_or_lt_of_le hst with e | hlt
    · exact Or.inl e.symm
    · right
      rw [hfg _ (Nat.sub_lt (Nat.zero_lt_of_lt hlt) Nat.one_pos), hlast hlt]
      exact hd
  · -- the run goes on
    obtain ⟨a, ha, a1, a2, a3, a4⟩ := h.2 hd
    rw [ha]
    refine ⟨a, ?_, a1, Nat.lt_succ_of_lt a2, fun j j1 j2 => ?_, ?_⟩
    · exact congrArg (fun k => (some a, some k)) (Nat.sub_add_cancel (Nat.zero_lt_of_lt a2))
    · by_cases hj : j < n
      · rw [hfg j hj]; exact a3 j j1 hj
      · exact new j (Nat.le_of_not_lt hj) j2
    · rcases a4 with e | e
      · exact Or.inl e
      · by_cases h0 : a = 0
        · exact Or.inl (Nat.le_antisymm (h0 ▸ Nat.zero_le st) a1)
        · right
          rw [hfg _ (Nat.lt_trans (Nat.sub_lt (Nat.pos_of_ne_zero h0) Nat.one_pos) a2)]
          exact e

/-- `retraining_recs` is `[None, None]` while the state is `None`; otherwise it is
    `[a, k]` with `k` the index of the latest update and `a` the index at which the
    current uninterrupted run of warning/drift states began (inside the current
    epoch: the state before `a` was `None`, or `a` is the epoch's first update). -/
structure RunSem (xs : List Bool) : Prop where
  none_ : o.drift (run step init xs) = .none → o.recs (run step init xs) = Recs.empty
  some_ : o.drift (run step init xs) ≠ .none → ∃ a,
    o.recs (run step init xs) = (some a, some (xs.length - 1)) ∧
    xs.length - o.since (run step init xs) ≤ a ∧ a < xs.length ∧
    (∀ j, a ≤ j → j < xs.length → stateAt step init o xs j ≠ .none) ∧
    (a = xs.length - o.since (run step init xs) ∨ stateAt step init o xs (a - 1) = .none)

variable {step init o} in
theorem RunSem.of {xs : List Bool}
    (h : RunIn (stateAt step init o xs) (xs.length - o.since (run step init xs)) xs.length
      (o.drift (run step init xs)) (o.recs (run step init xs))) :
    RunSem step init o xs :=
  ⟨h.1, h.2⟩

theorem runSem {Inv : σ → Prop} (h : Counters step init o) (r : RunRule step init o Inv) :
    ∀ xs, RunSem step init o xs := by
  apply snoc_induction
  · refine ⟨fun _ => by rw [run_nil, h.recs0], fun hd => ?_⟩
    rw [run_nil, h.drift0] at hd; exact absurd rfl hd
  · intro xs x ih
    have hnone := r.recs_none _ x (r.inv_run xs)
    have hsome := r.recs_some _ x (r.inv_run xs)
    rw [(epochSem step init o h xs).total] at hsome
    rw [← stateAt_snoc_eq (o := o) xs x] at hnone hsome
    refine RunSem.of ?_
    rw [start_snoc h, run_snoc, List.length_append, ← stateAt_snoc_eq (o := o) xs x]
    split
    · rw [if_pos ‹_›] at hsome
      exact (RunIn.empty _ _).snoc (Nat.le_refl _) (stateAt_snoc_lt xs x)
        (fun hlt => absurd hlt (Nat.lt_irrefl _)) hnone hsome
    · rw [if_neg ‹_›] at hsome
      exact RunIn.snoc ⟨ih.none_, ih.some_⟩ (Nat.sub_le _ _) (stateAt_snoc_lt xs x)
        (fun hlt => stateAt_last (Nat.sub_add_cancel (Nat.zero_lt_of_lt hlt))) hnone hsome

end
end MV.ErrTrace
