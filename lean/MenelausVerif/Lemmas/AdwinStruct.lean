/-
  Structural lemmas about the ADWIN model (no arithmetic law used: they hold for
  every carrier, in particular for the executed `Float` instance).  Everything is read off the
  traversal list `flat rows` (oldest bucket first): adding a sample appends a bucket and merges
  neighbours (`Merges`), `_remove_last` takes the first entry off (`flat_removeRows`), a scan walks it
  (`scan_iff`).  `SInv` is the invariant of a detector state: the bucket rows are fit for `_remove_last` and hold
  `W` samples (`Shape`), `W ≤ total`, no recommendation while the state is `None`, never `warning`.  It holds along
  every run under `1 ≤ subwindow_size_thresh` (`sinv_init`, `sinv_step`, `sinv_run`), and the lemmas about `step`
  that take `hsub` take it too; `step_eq`, `step_total`, `step_unscheduled` and the `afterAdd_…` equations hold
  from any state (`RowsLe` is kept under `1 ≤ max_buckets` alone: `rowsLe_step`).  What every cut preserves holds
  after `_shrink_window` (`shrink_induction`), what a scheduled check returns is a `LoopResult`
  (`shrink_cases`).  One update is `afterAdd`, or a `LoopResult` that dropped `k > 0` buckets of it (`step_loop`);
  `step_cases` is the same as the public attributes show it; `width_step`, `step_drift_iff`, `step_drops_oldest`,
  `step_recs` are readings, `hit_iff` is what a hit means.  A predicate of the state is carried along a history by
  `run_induction`; a statement that also mentions the history goes by reverse induction on the list with `run_snoc`.
-/
import MenelausVerif.Model.Adwin
import MenelausVerif.Lemmas.Drift
namespace MV.Adwin

section plain
variable {α : Type}

/-- number of samples represented by a traversal list.  Under `open MV.Adwin` outside this namespace the name
    is ambiguous with core's `SizeOf.sizeOf`: write `Adwin.sizeOf` there. -/
def sizeOf (fl : List (Nat × Bucket α)) : Nat := (fl.map (fun e => 2 ^ e.1)).sum

@[simp] theorem sizeOf_nil : sizeOf ([] : List (Nat × Bucket α)) = 0 := rfl
@[simp] theorem sizeOf_cons (e : Nat × Bucket α) (fl) : sizeOf (e :: fl) = 2 ^ e.1 + sizeOf fl := by
  simp [sizeOf]
@[simp] theorem sizeOf_append (a b : List (Nat × Bucket α)) : sizeOf (a ++ b) = sizeOf a + sizeOf b := by
  simp [sizeOf]

theorem sizeOf_take_pos (fl : List (Nat × Bucket α)) (k : Nat) (hk : 0 < k) (hne : fl ≠ []) :
    0 < sizeOf (fl.take k) := by
  match fl, k with
  | e :: rest, k + 1 =>
    rw [List.take_succ_cons, sizeOf_cons]
    exact Nat.add_pos_left (Nat.pow_pos (Nat.zero_lt_two)) _

@[simp] theorem flatFrom_nil (i : Nat) : flatFrom i ([] : Rows α) = [] := rfl
@[simp] theorem flatFrom_cons (i : Nat) (r : List (Bucket α)) (rest : Rows α) :
    flatFrom i (r :: rest) = flatFrom (i + 1) rest ++ r.map (fun b => (i, b)) := rfl

theorem flatFrom_append (i : Nat) (a b : Rows α) :
    flatFrom i (a ++ b) = flatFrom (i + a.length) b ++ flatFrom i a := by
  induction a generalizing i with
  | nil => simp
  | cons r a ih => simp [ih, Nat.add_assoc, Nat.add_comm 1]

theorem addCarry_eq (carry : Option (Bucket α)) (row : List (Bucket α)) :
    addCarry carry row = row ++ carry.toList := by
  cases carry <;> simp [addCarry]

theorem flat_pushHead [NatCast α] (x : α) (rows : Rows α) :
    flat (pushHead x rows) = flat rows ++ [(0, (x, ((0 : Nat) : α)))] := by
  cases rows with
  | nil => simp [flat, pushHead]
  | cons r rest => simp [flat, pushHead]

/-- a non-empty row list whose last row is not empty -/
def LastNe : Rows α → Prop
  | [] => False
  | [r] => r ≠ []
  | _ :: rest => LastNe rest

/-- what `_remove_last` relies on: there is a row, and when there are several the tail row is not empty -/
def TailOK : Rows α → Prop
  | [] => False
  | [_] => True
  | _ :: rest => LastNe rest

theorem LastNe.ne_nil {rows : Rows α} (h : LastNe rows) : rows ≠ [] := by
  rintro rfl; exact h

theorem lastNe_cons (r : List (Bucket α)) (rest : Rows α) :
    LastNe (r :: rest) ↔ (rest = [] ∧ r ≠ []) ∨ LastNe rest := by
  cases rest with
  | nil => simp [LastNe]
  | cons a b => simp [LastNe]

theorem tailOK_cons (r : List (Bucket α)) (rest : Rows α) :
    TailOK (r :: rest) ↔ rest = [] ∨ LastNe rest := by
  cases rest with
  | nil => simp [TailOK]
  | cons a b => simp [TailOK]

theorem TailOK.ne_nil {rows : Rows α} (h : TailOK rows) : rows ≠ [] := by
  rintro rfl; exact h

theorem LastNe.tailOK {rows : Rows α} (h : LastNe rows) : TailOK rows := by
  cases rows with
  | nil => exact h
  | cons r rest =>
    rw [tailOK_cons]
    rw [lastNe_cons] at h
    exact h.imp And.left id

theorem lastNe_of_tailOK {rows : Rows α} (h : TailOK rows) (hf : flat rows ≠ []) : LastNe rows := by
  match rows, h with
  | [r], _ => exact fun hr => hf (by rw [hr]; rfl)
  | _ :: _ :: _, h => exact h

theorem lastNe_iff {rows : Rows α} : LastNe rows ↔ ∃ init b r, rows = init ++ [b :: r] := by
  induction rows with
  | nil => simp [LastNe]
  | cons r0 rest ih =>
    rw [lastNe_cons, ih]
    constructor
    · rintro (⟨rfl, h⟩ | ⟨init, b, r, rfl⟩)
      · obtain ⟨b, r, rfl⟩ := List.exists_cons_of_ne_nil h
        exact ⟨[], b, r, rfl⟩
      · exact ⟨r0 :: init, b, r, rfl⟩
    · rintro ⟨init, b, r, h⟩
      cases init with
      | nil => left; simp at h; simp [h.1, h.2]
      | cons r1 init => right; simp at h; exact ⟨init, b, r, h.2⟩

/-- after `head.add_bucket` the tail row is not empty, whatever the head row was -/
theorem lastNe_pushHead [NatCast α] (x : α) {rows : Rows α} (h : TailOK rows) : LastNe (pushHead x rows) := by
  match rows, h with
  | r :: rest, h => exact (lastNe_cons _ rest).mpr (((tailOK_cons r rest).mp h).imp (fun h => ⟨h, by simp⟩) id)

theorem trimAll_cons (r : List (Bucket α)) (rest : Rows α) :
    trimAll (r :: rest) = if trimAll rest = [] ∧ r = [] then [] else r :: trimAll rest := by
  rw [trimAll]
  split
  · next h => rw [h]; cases r <;> simp
  · next h => rw [if_neg (fun h' => h h'.1)]

theorem flatFrom_trimAll (rows : Rows α) (i : Nat) : flatFrom i (trimAll rows) = flatFrom i rows := by
  induction rows generalizing i with
  | nil => rfl
  | cons r rest ih =>
    rw [flatFrom_cons, ← ih, trimAll_cons]
    split
    · next h => rw [h.1, h.2]; rfl
    · rfl

theorem trimAll_lastNe (rows : Rows α) : trimAll rows = [] ∨ LastNe (trimAll rows) := by
  induction rows with
  | nil => exact .inl rfl
  | cons r rest ih =>
    rw [trimAll_cons]
    split
    · exact .inl rfl
    · next h => exact .inr ((lastNe_cons _ _).mpr (ih.imp (fun h' => ⟨h', fun hr => h ⟨h', hr⟩⟩) id))

theorem trimAll_sublist (rows : Rows α) : (trimAll rows).Sublist rows := by
  induction rows with
  | nil => exact .slnil
  | cons r rest ih =>
    rw [trimAll_cons]
    split
    · exact List.nil_sublist _
    · exact ih.cons_cons r

theorem trimAll_length_le (rows : Rows α) : (trimAll rows).length ≤ rows.length :=
  (trimAll_sublist rows).length_le

theorem flatFrom_trimTail (rows : Rows α) (i : Nat) : flatFrom i (trimTail rows) = flatFrom i rows := by
  cases rows with
  | nil => rfl
  | cons r rest => simp [trimTail, flatFrom_trimAll]

theorem trimTail_tailOK (rows : Rows α) (h : rows ≠ []) : TailOK (trimTail rows) := by
  cases rows with
  | nil => exact absurd rfl h
  | cons r rest =>
    simp only [trimTail]
    rw [tailOK_cons]
    exact trimAll_lastNe rest

theorem mem_trimTail {rows : Rows α} {r : List (Bucket α)} (h : r ∈ trimTail rows) : r ∈ rows := by
  cases rows with
  | nil => exact h
  | cons r0 rest => exact ((trimAll_sublist rest).cons_cons r0).subset h

theorem dropOldest_concat (init : Rows α) (b : Bucket α) (r : List (Bucket α)) :
    dropOldest (init ++ [b :: r]) = if r = [] then init else init ++ [r] := by
  induction init with
  | nil => cases r <;> rfl
  | cons r0 init ih =>
    rw [List.cons_append, dropOldest, ih]
    · split <;> rfl
    · simp

theorem oldest_concat [NatCast α] (init : Rows α) (b : Bucket α) (r : List (Bucket α)) :
    oldest (init ++ [b :: r]) = b := by
  simp [oldest]

/-- the rows `_remove_last` leaves -/
def removeRows (rows : Rows α) : Rows α :=
  if (dropOldest rows).length < rows.length then trimTail (dropOldest rows) else dropOldest rows

theorem removeRows_concat (init : Rows α) (b : Bucket α) (r : List (Bucket α)) :
    removeRows (init ++ [b :: r]) = if r = [] then trimTail init else init ++ [r] := by
  unfold removeRows
  rw [dropOldest_concat]
  split <;> simp

/-- on a row list with `TailOK`, `_remove_last` takes the first entry off the traversal list, and that
    entry is the bucket the code reads: bucket 0 of the tail row -/
theorem flat_removeRows {rows : Rows α} [NatCast α] (h : TailOK rows) {e : Nat × Bucket α}
    {rest : List (Nat × Bucket α)} (hf : flat rows = e :: rest) :
    e = (rows.length - 1, oldest rows) ∧ flat (removeRows rows) = rest ∧
      (rest ≠ [] → TailOK (removeRows rows)) := by
  obtain ⟨init, b, r, rfl⟩ := lastNe_iff.mp (lastNe_of_tailOK h (hf ▸ List.cons_ne_nil _ _))
  simp only [flat, flatFrom_append, flatFrom_cons, flatFrom_nil, List.nil_append, List.map_cons,
    List.cons_append, List.cons.injEq, Nat.zero_add] at hf
  obtain ⟨rfl, rfl⟩ := hf
  rw [oldest_concat, removeRows_concat]
  refine ⟨by simp, ?_, ?_⟩
  · split
    · next hr => simp [flat, flatFrom_trimTail, hr]
    · simp [flat, flatFrom_append]
  · intro hne
    split
    · next hr =>
      apply trimTail_tailOK
      rintro rfl
      simp [hr] at hne
    · next hr =>
      obtain ⟨b', r', rfl⟩ := List.exists_cons_of_ne_nil hr
      exact (lastNe_iff.mpr ⟨init, b', r', rfl⟩).tailOK

/-- the bucket rows are fit for `_remove_last` and hold `W` samples -/
def Shape (rows : Rows α) (W : Nat) : Prop := TailOK rows ∧ sizeOf (flat rows) = W

/-- the invariant of a detector state that needs no arithmetic law; `le_total` keeps `total - W` in `cut`'s
    recommendation from underflowing -/
structure SInv (s : State α) : Prop where
  shape : Shape s.rows s.W
  le_total : s.W ≤ s.total
  recs : s.drift = .none → s.recs = Recs.empty
  nowarn : s.drift ≠ .warning

theorem sinv_init [NatCast α] : SInv (init : State α) :=
  { shape := ⟨trivial, rfl⟩, le_total := Nat.le_refl _, recs := fun _ => rfl, nowarn := nofun }

/-- ADWIN never warns -/
theorem SInv.drift_eq_none {s : State α} (hs : SInv s) (h : s.drift ≠ .drift) : s.drift = .none :=
  Drift.eq_none_of_ne hs.nowarn h

/-- every row holds at most `max_buckets` buckets between updates -/
def RowsLe (M : Nat) (rows : Rows α) : Prop := ∀ r ∈ rows, r.length ≤ M

theorem rowsLe_dropOldest {M : Nat} {rows : Rows α} (h : RowsLe M rows) : RowsLe M (dropOldest rows) := by
  fun_induction dropOldest rows with
  | case1 => exact h
  | case2 => exact h
  | case3 => exact nofun
  | case4 b r' _ => exact List.forall_mem_singleton.2 (Nat.le_of_succ_le (h _ (List.mem_singleton_self _)))
  | case5 r0 rest _ ih =>
    obtain ⟨h0, h⟩ := List.forall_mem_cons.1 h
    exact List.forall_mem_cons.2 ⟨h0, ih h⟩

theorem rowsLe_removeRows {M : Nat} {rows : Rows α} (h : RowsLe M rows) : RowsLe M (removeRows rows) := by
  unfold removeRows
  split
  · exact fun r hr => rowsLe_dropOldest h r (mem_trimTail hr)
  · exact rowsLe_dropOldest h

end plain

section arith
variable {α : Type} [Add α] [Sub α] [Mul α] [Div α] [NatCast α]

/-- one run of `_compress_buckets` is a sequence of local replacements in the traversal list:
    two neighbouring buckets of row `i` become one bucket of row `i+1` at the same place -/
inductive Merges : List (Nat × Bucket α) → List (Nat × Bucket α) → Prop
  | refl (fl) : Merges fl fl
  | step (A B : List (Nat × Bucket α)) (i : Nat) (b0 b1 : Bucket α) (fl) :
      Merges (A ++ (i + 1, merge i b0 b1) :: B) fl → Merges (A ++ (i, b0) :: (i, b1) :: B) fl

theorem Merges.append_right {a b : List (Nat × Bucket α)} (h : Merges a b) (T : List (Nat × Bucket α)) :
    Merges (a ++ T) (b ++ T) := by
  induction h with
  | refl fl => exact .refl _
  | step A B i b0 b1 fl _ ih =>
    have := Merges.step A (B ++ T) i b0 b1 (fl ++ T) (by simpa using ih)
    simpa using this

/-- one round of the cascade: the row (with the carried bucket) stays as it is — it is not full, or
    `max_buckets = 0` — or its two oldest buckets are merged and handed to the next row -/
theorem compress_cases (M i : Nat) (carry : Option (Bucket α)) (r : List (Bucket α)) (rest : Rows α) :
    (compress M i carry (r :: rest) = addCarry carry r :: rest ∧
      ((addCarry carry r).length = M + 1 → M = 0)) ∨
    ∃ b0 b1 row', addCarry carry r = b0 :: b1 :: row' ∧ row'.length + 1 = M ∧
      compress M i carry (r :: rest) = row' :: compress M (i + 1) (some (merge i b0 b1)) rest := by
  rw [compress]
  split
  · next hfull =>
    split
    · next b0 b1 row' heq =>
      exact .inr ⟨b0, b1, row', heq, by simpa [heq] using hfull, rfl⟩
    · next hno =>
      refine .inl ⟨rfl, fun _ => ?_⟩
      match h : addCarry carry r with
      | [] => simp [h] at hfull
      | [_] => simpa [h] using hfull
      | b0 :: b1 :: row' => exact absurd h (hno b0 b1 row')
  · next hne => exact .inl ⟨rfl, fun h => absurd h hne⟩

theorem compress_merges (M : Nat) (rows : Rows α) : ∀ (i : Nat) (carry : Option (Bucket α)),
    Merges (flatFrom i rows ++ carry.toList.map (fun b => (i, b))) (flatFrom i (compress M i carry rows)) := by
  induction rows with
  | nil =>
    intro i carry
    cases carry <;> exact .refl _
  | cons r rest ih =>
    intro i carry
    rw [flatFrom_cons, List.append_assoc, ← List.map_append, ← addCarry_eq]
    rcases compress_cases M i carry r rest with ⟨h1, _⟩ | ⟨b0, b1, row', heq, _, h1⟩
    · rw [h1]; exact .refl _
    · rw [h1, heq]
      have h2 := (ih (i + 1) (some (merge i b0 b1))).append_right (row'.map (fun b => (i, b)))
      exact .step (flatFrom (i + 1) rest) (row'.map (fun b => (i, b))) i b0 b1 _ (by simpa using h2)

theorem Merges.sizeOf_eq {a b : List (Nat × Bucket α)} (h : Merges a b) : sizeOf a = sizeOf b := by
  induction h with
  | refl => rfl
  | step A B i b0 b1 fl _ ih =>
    rw [← ih]; simp [Nat.pow_succ]; omega

theorem Merges.length_le {a b : List (Nat × Bucket α)} (h : Merges a b) : b.length ≤ a.length := by
  induction h with
  | refl => exact Nat.le_refl _
  | step A B i b0 b1 fl _ ih => simp at ih ⊢; omega

theorem rowsLe_compress (M : Nat) (hM : 1 ≤ M) : ∀ (rest : Rows α) (i : Nat) (carry : Option (Bucket α))
    (r0 : List (Bucket α)), (addCarry carry r0).length ≤ M + 1 → RowsLe M rest →
    RowsLe M (compress M i carry (r0 :: rest))
  | rest, i, carry, r0, h0, hrest => by
    rcases compress_cases M i carry r0 rest with ⟨h1, hf⟩ | ⟨b0, b1, row', heq, hlen, h1⟩
    · rw [h1]
      exact List.forall_mem_cons.2 ⟨by have := mt hf; omega, hrest⟩
    · rw [h1]
      refine List.forall_mem_cons.2 ⟨by omega, ?_⟩
      match rest, hrest with
      | [], _ => exact List.forall_mem_singleton.2 hM
      | r1 :: rest, hrest =>
        obtain ⟨h1, hrest⟩ := List.forall_mem_cons.1 hrest
        exact rowsLe_compress M hM rest _ _ r1 (by simpa [addCarry] using h1) hrest

/-- the cascade keeps the tail row non-empty: a row loses buckets only by handing their merge to the next row -/
theorem compress_lastNe (M : Nat) (rows : Rows α) : ∀ (j : Nat) (carry : Option (Bucket α)),
    LastNe rows ∨ (rows = [] ∧ carry ≠ none) → LastNe (compress M j carry rows) := by
  induction rows with
  | nil =>
    rintro j carry (h | ⟨-, h⟩)
    · exact h.elim
    · obtain ⟨b, rfl⟩ := Option.ne_none_iff_exists'.mp h
      exact List.cons_ne_nil b []
  | cons r rs ih =>
    rintro j carry (h | ⟨h, -⟩)
    · rw [lastNe_cons] at h
      rcases compress_cases M j carry r rs with ⟨h1, -⟩ | ⟨b0, b1, row', -, -, h1⟩
      · rw [h1, lastNe_cons]
        exact h.imp (fun h => ⟨h.1, by rw [addCarry_eq]; simp [h.2]⟩) id
      · rw [h1, lastNe_cons]
        exact .inr (ih (j + 1) _ (h.symm.imp id fun h => ⟨h.1, nofun⟩))
    · cases h

theorem merges_addSample (M : Nat) (rows : Rows α) (x : α) :
    Merges (flat rows ++ [(0, (x, ((0 : Nat) : α)))]) (flat (compress M 0 none (pushHead x rows))) := by
  rw [← flat_pushHead, ← List.append_nil (flat (pushHead x rows))]
  exact compress_merges M (pushHead x rows) 0 none

theorem shape_addSample (M : Nat) (rows : Rows α) (W : Nat) (x : α) (h : Shape rows W) :
    Shape (compress M 0 none (pushHead x rows)) (W + 1) := by
  refine ⟨(compress_lastNe M _ 0 none (.inl (lastNe_pushHead x h.1))).tailOK, ?_⟩
  rw [← (merges_addSample M rows x).sizeOf_eq, sizeOf_append, h.2]; rfl

theorem rowsLe_addSample (M : Nat) (hM : 1 ≤ M) (rows : Rows α) (x : α) (h : RowsLe M rows) :
    RowsLe M (compress M 0 none (pushHead x rows)) := by
  match rows, h with
  | [], h => exact rowsLe_compress M hM [] 0 none _ (Nat.succ_le_succ (Nat.zero_le M)) h
  | r0 :: rest, h =>
    obtain ⟨h0, h⟩ := List.forall_mem_cons.1 h
    exact rowsLe_compress M hM rest 0 none _ (by simpa [addCarry] using h0) h

theorem removeLast_rows (s : State α) : (removeLast s).rows = removeRows s.rows := rfl

theorem shape_removeLast (s : State α) (h : Shape s.rows s.W) {e : Nat × Bucket α}
    {rest : List (Nat × Bucket α)} (hf : flat s.rows = e :: rest) (hlt : 2 ^ e.1 < s.W) :
    e = (s.rows.length - 1, oldest s.rows) ∧ Shape (removeLast s).rows (removeLast s).W ∧
      flat (removeLast s).rows = rest ∧ (removeLast s).W = s.W - 2 ^ e.1 := by
  obtain ⟨rfl, hfl, hok⟩ := flat_removeRows h.1 hf
  replace hlt : 2 ^ (s.rows.length - 1) < s.W := hlt
  have hsz : 2 ^ (s.rows.length - 1) + sizeOf rest = s.W := by
    have := h.2; rwa [hf, sizeOf_cons] at this
  have hne : rest ≠ [] := by rintro rfl; simp at hsz; omega
  refine ⟨rfl, ⟨hok hne, ?_⟩, hfl, rfl⟩
  rw [removeLast_rows, hfl]
  show sizeOf rest = s.W - 2 ^ (s.rows.length - 1)
  omega

theorem cut_total (s : State α) : (cut s).total = s.total := rfl

theorem cut_drift (s : State α) : (cut s).drift = .drift := rfl

theorem cut_recs (s : State α) : (cut s).recs = (some (s.total - (cut s).W), some (s.total - 1)) := rfl

/-- the state right before `_shrink_window` is called in `update` -/
def afterAdd (c : Cfg α) (s : State α) (x : α) : State α :=
  let s0 := if s.drift ≠ .none then reset s else s
  addSample c.maxBuckets { s0 with total := s0.total + 1, W := s0.W + 1 } x

/-- `afterAdd` field by field (the optional `reset` only clears `drift` and `recs`; `s.W` is the width before
    the update, so the code's `_window_size - 1`) -/
theorem afterAdd_eq (c : Cfg α) (s : State α) (x : α) :
    afterAdd c s x =
      { rows := compress c.maxBuckets 0 none (pushHead x s.rows), W := s.W + 1, total := s.total + 1,
        sum := s.sum + x,
        var := if 0 < s.W then s.var + ((s.W : Nat) : α) * (x - s.sum / ((s.W : Nat) : α))
                * (x - s.sum / ((s.W : Nat) : α)) / ((s.W + 1 : Nat) : α) else s.var,
        drift := .none, recs := if s.drift = .none then s.recs else Recs.empty } := by
  by_cases hd : s.drift = .none <;> simp [afterAdd, addSample, reset, hd]

theorem afterAdd_W (c : Cfg α) (s : State α) (x : α) : (afterAdd c s x).W = s.W + 1 := by
  rw [afterAdd_eq]

theorem afterAdd_total (c : Cfg α) (s : State α) (x : α) : (afterAdd c s x).total = s.total + 1 := by
  rw [afterAdd_eq]

theorem afterAdd_drift (c : Cfg α) (s : State α) (x : α) : (afterAdd c s x).drift = .none := by
  rw [afterAdd_eq]

/-- the schedule guard of an update, on the state before it -/
theorem scheduled_afterAdd (c : Cfg α) (s : State α) (x : α) :
    scheduled c (afterAdd c s x) = true ↔ (s.total + 1) % c.newSampleThresh = 0 ∧ s.W + 1 > c.windowThresh := by
  simp only [scheduled, afterAdd_W, afterAdd_total, decide_eq_true_eq]

theorem sinv_afterAdd (c : Cfg α) (s : State α) (hs : SInv s) (x : α) : SInv (afterAdd c s x) := by
  rw [afterAdd_eq]
  refine { shape := shape_addSample c.maxBuckets s.rows s.W x hs.shape
           le_total := Nat.succ_le_succ hs.le_total, recs := fun _ => ?_, nowarn := nofun }
  dsimp only
  split
  · next hd => exact hs.recs hd
  · rfl

end arith

section full
variable {α : Type} [Add α] [Sub α] [Mul α] [Div α] [Neg α] [LT α] [DecidableLT α]
  [NatCast α] [HasSqrt α] [HasLogExp α]

theorem step_eq (c : Cfg α) (s : State α) (x : α) : step c s x = shrink c (afterAdd c s x) := rfl

theorem run_snoc (c : Cfg α) (xs : List α) (x : α) : run c (xs ++ [x]) = step c (run c xs) x := by
  simp [run, List.foldl_append]

theorem run_induction (c : Cfg α) (P : State α → Prop) (hstep : ∀ s, P s → ∀ x, P (step c s x)) (h0 : P init)
    (xs : List α) : P (run c xs) :=
  List.foldlRecOn xs (step c) h0 fun s h x _ => hstep s h x

/-- left-to-right accumulation of the older part's total, as the scan computes it -/
def accT0 (t0 : α) (pre : List (Nat × Bucket α)) : α := pre.foldl (fun t e => t + e.2.1) t0
/-- left-to-right accumulation of the newer part's total -/
def accT1 (t1 : α) (pre : List (Nat × Bucket α)) : α := pre.foldl (fun t e => t - e.2.1) t1

/-- the split after the buckets `pre` (older part) is admissible and exceeds the epsilon-cut;
    `n0, n1, t0, t1` are the scan's accumulators before `pre` -/
def splitHit (c : Cfg α) (s : State α) (n0 n1 : Nat) (t0 t1 : α) (pre : List (Nat × Bucket α)) : Prop :=
  c.subThresh ≤ n0 + sizeOf pre ∧ c.subThresh ≤ n1 - sizeOf pre ∧
  checkEps c s (n0 + sizeOf pre) (accT0 t0 pre) (n1 - sizeOf pre) (accT1 t1 pre) = true

theorem splitHit_cons (c : Cfg α) (s : State α) (n0 n1 : Nat) (t0 t1 : α) (i : Nat) (b : Bucket α)
    (pre : List (Nat × Bucket α)) :
    splitHit c s n0 n1 t0 t1 ((i, b) :: pre) ↔
      splitHit c s (n0 + 2 ^ i) (n1 - 2 ^ i) (t0 + b.1) (t1 - b.1) pre := by
  simp only [splitHit, accT0, accT1, sizeOf_cons, List.foldl_cons, Nat.add_assoc, Nat.sub_sub]

/-- a scan hits iff some bucket boundary other than the end of the youngest bucket is an
    admissible split exceeding the epsilon-cut -/
theorem scan_iff (c : Cfg α) (s : State α) (fl : List (Nat × Bucket α)) : ∀ (n0 n1 : Nat) (t0 t1 : α),
    scan c s n0 n1 t0 t1 fl = true ↔
      ∃ k, ∃ hk : k < fl.length, ¬ (k + 1 = fl.length ∧ (fl[k]).1 = 0) ∧
        splitHit c s n0 n1 t0 t1 (fl.take (k + 1)) := by
  induction fl with
  | nil => intro n0 n1 t0 t1; simp [scan]
  | cons e rest ih =>
    intro n0 n1 t0 t1
    obtain ⟨i, b⟩ := e
    rw [scan]
    by_cases hexit : i = 0 ∧ rest.isEmpty = true
    · rw [if_pos hexit]
      obtain ⟨rfl, hr⟩ := hexit
      have hr' : rest = [] := by simpa using hr
      subst hr'
      simp
    · rw [if_neg hexit]
      have h0 : splitHit c s n0 n1 t0 t1 [(i, b)] ↔ c.subThresh ≤ n0 + 2 ^ i ∧ c.subThresh ≤ n1 - 2 ^ i ∧
          checkEps c s (n0 + 2 ^ i) (t0 + b.1) (n1 - 2 ^ i) (t1 - b.1) = true := by
        simp [splitHit, accT0, accT1]
      by_cases hadm : splitHit c s n0 n1 t0 t1 [(i, b)]
      · rw [if_pos (h0.mp hadm)]
        refine iff_of_true rfl ⟨0, by simp, fun ⟨h1, h2⟩ => hexit ⟨h2, ?_⟩, hadm⟩
        simpa using h1
      · rw [if_neg (mt h0.mpr hadm), ih]
        constructor
        · rintro ⟨k, hk, hne, hs⟩
          exact ⟨k + 1, by simpa using hk, by simpa using hne, by rwa [List.take_succ_cons, splitHit_cons]⟩
        · rintro ⟨k, hk, hne, hs⟩
          cases k with
          | zero => exact absurd hs hadm
          | succ k =>
            exact ⟨k, by simpa using hk, by simpa using hne, by rwa [List.take_succ_cons, splitHit_cons] at hs⟩

/-- a hit leaves at least `subwindow_size_thresh ≥ 1` samples behind the oldest bucket -/
theorem scan_true_bound (c : Cfg α) (s : State α) (hsub : 1 ≤ c.subThresh) (fl : List (Nat × Bucket α))
    (n0 n1 : Nat) (t0 t1 : α) (h : scan c s n0 n1 t0 t1 fl = true) :
    ∃ e rest, fl = e :: rest ∧ 2 ^ e.1 + c.subThresh ≤ n1 := by
  obtain ⟨k, hk, -, -, h2, -⟩ := (scan_iff c s fl n0 n1 t0 t1).mp h
  cases fl with
  | nil => cases hk
  | cons e rest =>
    rw [List.take_succ_cons, sizeOf_cons] at h2
    exact ⟨e, rest, rfl, by omega⟩

theorem flat_ne_of_hit (c : Cfg α) (s : State α) (h : hit c s = true) : flat s.rows ≠ [] := by
  intro hnil; simp [hit, hnil, scan] at h

/-- **what a hit is**: some bucket boundary of the window — other than the end of the youngest
    bucket — splits it into an older part of `n0` and a newer part of `W − n0` samples, both at
    least `subwindow_size_thresh`, with `|total0/n0 − total1/n1| > eps_cut` (`checkEps`). -/
theorem hit_iff (c : Cfg α) (s : State α) :
    hit c s = true ↔
      ∃ k, ∃ hk : k < (flat s.rows).length,
        ¬ (k + 1 = (flat s.rows).length ∧ ((flat s.rows)[k]).1 = 0) ∧
        c.subThresh ≤ sizeOf ((flat s.rows).take (k + 1)) ∧
        c.subThresh ≤ s.W - sizeOf ((flat s.rows).take (k + 1)) ∧
        checkEps c s (sizeOf ((flat s.rows).take (k + 1)))
          (accT0 ((0 : Nat) : α) ((flat s.rows).take (k + 1)))
          (s.W - sizeOf ((flat s.rows).take (k + 1)))
          (accT1 s.sum ((flat s.rows).take (k + 1))) = true := by
  unfold hit
  rw [scan_iff]
  simp only [splitHit, Nat.zero_add]

/-- a hit on a state with `Shape` lets `_remove_last` take the first entry off the traversal list -/
theorem hit_cut (c : Cfg α) (hsub : 1 ≤ c.subThresh) (s : State α) (h : Shape s.rows s.W)
    (hh : hit c s = true) :
    ∃ e rest, flat s.rows = e :: rest ∧ 2 ^ e.1 + c.subThresh ≤ s.W ∧
      Shape (cut s).rows (cut s).W ∧ flat (cut s).rows = rest ∧ (cut s).W = s.W - 2 ^ e.1 := by
  obtain ⟨e, rest, hf, hb⟩ := scan_true_bound c s hsub _ _ _ _ _ hh
  exact ⟨e, rest, hf, hb, (shape_removeLast s h hf (by omega)).2⟩

theorem shrinkLoop_induction (c : Cfg α) (P : State α → Prop)
    (hcut : ∀ s, P s → hit c s = true → P (cut s)) : ∀ (fuel : Nat) (s : State α), P s →
    P (shrinkLoop c fuel s) := by
  intro fuel
  induction fuel with
  | zero => intro s h; exact h
  | succ fuel ih =>
    intro s h
    rw [shrinkLoop]
    split
    · next hh => exact ih _ (hcut s h hh)
    · exact h

theorem shrink_induction (c : Cfg α) (P : State α → Prop)
    (hcut : ∀ s, P s → hit c s = true → P (cut s)) (s : State α) (h : P s) : P (shrink c s) := by
  rw [shrink]
  split
  · exact shrinkLoop_induction c P hcut _ s h
  · exact h

theorem step_total (c : Cfg α) (s : State α) (x : α) : (step c s x).total = s.total + 1 := by
  rw [step_eq]
  exact shrink_induction c (fun s' => s'.total = s.total + 1) (fun _ h _ => h) _ (afterAdd_total c s x)

theorem rowsLe_step (c : Cfg α) (hM : 1 ≤ c.maxBuckets) (s : State α) (h : RowsLe c.maxBuckets s.rows) (x : α) :
    RowsLe c.maxBuckets (step c s x).rows := by
  rw [step_eq]
  refine shrink_induction c (fun s => RowsLe c.maxBuckets s.rows) (fun s h _ => rowsLe_removeRows h) _ ?_
  rw [afterAdd_eq]
  exact rowsLe_addSample _ hM s.rows x h

/-- result of the `while start_from_empty_subwindow` loop: `k` oldest buckets were dropped -/
structure LoopResult (c : Cfg α) (s s' : State α) (k : Nat) : Prop where
  shape : Shape s'.rows s'.W
  flat_eq : flat s'.rows = (flat s.rows).drop k
  width : s'.W + sizeOf ((flat s.rows).take k) = s.W
  total : s'.total = s.total
  settled : hit c s' = false
  zero : k = 0 → s' = s
  pos : 0 < k → hit c s = true ∧ s'.drift = .drift ∧ c.subThresh ≤ s'.W ∧
    s'.recs = (some (s.total - s'.W), some (s.total - 1))

theorem LoopResult.refl (c : Cfg α) (s : State α) (h : Shape s.rows s.W) (hs : hit c s = false) :
    LoopResult c s s 0 :=
  { shape := h, flat_eq := rfl, width := by simp, total := rfl, settled := hs, zero := fun _ => rfl,
    pos := fun hk => absurd hk (Nat.lt_irrefl 0) }

theorem shrinkLoop_spec (c : Cfg α) (hsub : 1 ≤ c.subThresh) : ∀ (fuel : Nat) (s : State α),
    Shape s.rows s.W → (flat s.rows).length ≤ fuel → ∃ k, LoopResult c s (shrinkLoop c fuel s) k := by
  intro fuel
  induction fuel with
  | zero =>
    intro s h hlen
    have hnil : flat s.rows = [] := List.eq_nil_of_length_eq_zero (Nat.le_zero.mp hlen)
    exact ⟨0, .refl c s h (by rw [hit, hnil]; rfl)⟩
  | succ fuel ih =>
    intro s h hlen
    rw [shrinkLoop]
    by_cases hh : hit c s = true
    · rw [if_pos hh]
      obtain ⟨e, rest, hf, hb, h1, h2, h3⟩ := hit_cut c hsub s h hh
      obtain ⟨k, r⟩ := ih (cut s) h1 (by rw [h2]; rw [hf] at hlen; exact Nat.le_of_succ_le_succ hlen)
      generalize shrinkLoop c fuel (cut s) = s' at r ⊢
      have hw := r.width
      rw [h2, h3] at hw
      -- drift, minimum width and recommendation come from the last cut: this one if no other follows
      have hle : c.subThresh ≤ s'.W ∧ s'.drift = .drift ∧ s'.recs = (some (s.total - s'.W), some (s.total - 1)) := by
        rcases Nat.eq_zero_or_pos k with hk | hk
        · rw [r.zero hk]; exact ⟨h3 ▸ Nat.le_sub_of_add_le' hb, cut_drift s, cut_recs s⟩
        · obtain ⟨_, p2, p3, p4⟩ := r.pos hk
          exact ⟨p3, p2, cut_total s ▸ p4⟩
      exact ⟨k + 1, { shape := r.shape
                      flat_eq := by rw [r.flat_eq, h2, hf]; rfl
                      width := by rw [hf]; simp only [List.take_succ_cons, sizeOf_cons]; omega
                      total := r.total.trans (cut_total s)
                      settled := r.settled
                      zero := fun hk => absurd hk (Nat.succ_ne_zero k)
                      pos := fun _ => ⟨hh, hle.2.1, hle.1, hle.2.2⟩ }⟩
    · rw [if_neg hh]
      exact ⟨0, .refl c s h (by simpa using hh)⟩

theorem LoopResult.sinv {c : Cfg α} {s s' : State α} {k : Nat} (r : LoopResult c s s' k) (hs : SInv s) :
    SInv s' := by
  rcases Nat.eq_zero_or_pos k with hk | hk
  · rw [r.zero hk]; exact hs
  · obtain ⟨-, hd, -, -⟩ := r.pos hk
    exact { shape := r.shape
            le_total := by have := r.width; have := hs.le_total; rw [r.total]; omega
            recs := fun h => nomatch hd.symm.trans h
            nowarn := fun h => nomatch hd.symm.trans h }

/-- `_shrink_window` on a state with `Shape`: nothing without a scheduled check, else the loop with
    enough fuel -/
theorem shrink_cases (c : Cfg α) (hsub : 1 ≤ c.subThresh) (s : State α) (h : Shape s.rows s.W) :
    (scheduled c s = false ∧ shrink c s = s) ∨
      (scheduled c s = true ∧ ∃ k, LoopResult c s (shrink c s) k) := by
  rw [shrink]
  cases scheduled c s
  · exact .inl ⟨rfl, rfl⟩
  · exact .inr ⟨rfl, shrinkLoop_spec c hsub _ s h (Nat.le_refl _)⟩

/-- **one update**: it is `afterAdd` (and a scheduled check found nothing), or the scheduled cut loop dropped
    `k > 0` buckets of `afterAdd` -/
theorem step_loop (c : Cfg α) (hsub : 1 ≤ c.subThresh) (s : State α) (hs : SInv s) (x : α) :
    (step c s x = afterAdd c s x ∧
      (scheduled c (afterAdd c s x) = true → hit c (afterAdd c s x) = false)) ∨
    (scheduled c (afterAdd c s x) = true ∧ ∃ k, 0 < k ∧ LoopResult c (afterAdd c s x) (step c s x) k) := by
  rcases shrink_cases c hsub _ (sinv_afterAdd c s hs x).shape with ⟨hsch, h⟩ | ⟨hsch, k, r⟩
  · exact .inl ⟨h, fun h' => nomatch hsch.symm.trans h'⟩
  · rcases Nat.eq_zero_or_pos k with hk | hk
    · exact .inl ⟨r.zero hk, fun _ => r.zero hk ▸ r.settled⟩
    · exact .inr ⟨hsch, k, hk, r⟩

/-- an update that drops no bucket is `afterAdd`; one that drops some reports drift -/
theorem step_eq_afterAdd_of_quiet (c : Cfg α) (hsub : 1 ≤ c.subThresh) (s : State α) (hs : SInv s) (x : α)
    (h : (step c s x).drift ≠ .drift) : step c s x = afterAdd c s x := by
  rcases step_loop c hsub s hs x with ⟨e, -⟩ | ⟨-, k, hk, r⟩
  · exact e
  · exact absurd (r.pos hk).2.1 h

/-- **One update, as its public attributes show it**: it either only adds the sample (state `None`, the
    window one wider, no recommendation) or — on the schedule, the window past its minimum — cuts (state
    `drift`, at least one sample kept, at least one dropped, the recommendation is the kept window). -/
theorem step_cases (c : Cfg α) (hsub : 1 ≤ c.subThresh) (s : State α) (hs : SInv s) (x : α) :
    SInv (step c s x) ∧ (step c s x).total = s.total + 1 ∧
    (((step c s x).drift = .none ∧ (step c s x).W = s.W + 1 ∧ (step c s x).recs = Recs.empty) ∨
     ((step c s x).drift = .drift ∧ 1 ≤ (step c s x).W ∧ (step c s x).W ≤ s.W ∧
       (step c s x).W ≤ (step c s x).total ∧
       (step c s x).recs = (some ((step c s x).total - (step c s x).W), some ((step c s x).total - 1)) ∧
       (s.total + 1) % c.newSampleThresh = 0 ∧ s.W + 1 > c.windowThresh)) := by
  have ha := sinv_afterAdd c s hs x
  rcases step_loop c hsub s hs x with ⟨e, -⟩ | ⟨hsch, k, hk, r⟩
  · rw [e]
    exact ⟨ha, afterAdd_total c s x, .inl ⟨afterAdd_drift c s x, afterAdd_W c s x, ha.recs (afterAdd_drift c s x)⟩⟩
  · obtain ⟨p1, p2, p3, p4⟩ := r.pos hk
    have hw := r.width
    have := sizeOf_take_pos _ k hk (flat_ne_of_hit c _ p1)
    rw [afterAdd_W] at hw
    exact ⟨r.sinv ha, r.total.trans (afterAdd_total c s x),
      .inr ⟨p2, by omega, by omega, (r.sinv ha).le_total, by rw [p4, r.total], (scheduled_afterAdd c s x).1 hsch⟩⟩

theorem sinv_step (c : Cfg α) (hsub : 1 ≤ c.subThresh) (s : State α) (hs : SInv s) (x : α) : SInv (step c s x) :=
  (step_cases c hsub s hs x).1

theorem sinv_run (c : Cfg α) (hsub : 1 ≤ c.subThresh) (xs : List α) : SInv (run c xs) :=
  run_induction c SInv (sinv_step c hsub) sinv_init xs

/-- **W grows by one per update and shrinks only in an update that reports drift; W ≥ 1.** -/
theorem width_step (c : Cfg α) (hsub : 1 ≤ c.subThresh) (s : State α) (hs : SInv s) (x : α) :
    (step c s x).W ≤ s.W + 1 ∧ 1 ≤ (step c s x).W ∧
    ((step c s x).drift = .none ↔ (step c s x).W = s.W + 1) ∧
    ((step c s x).drift = .drift ↔ (step c s x).W < s.W + 1) := by
  obtain ⟨-, -, ⟨h1, h2, -⟩ | ⟨h1, h2, h3, -⟩⟩ := step_cases c hsub s hs x
  · rw [h1, h2]; simp
  · rw [h1]
    exact ⟨by omega, h2, ⟨fun h => (nomatch h), fun h => by omega⟩, ⟨fun _ => by omega, fun _ => rfl⟩⟩

/-- **Drift is reported exactly when the check is scheduled (`total % new_sample_thresh = 0` and
    `W > window_size_thresh`, evaluated after the sample was added) and the first scan finds a
    cut** (`hit_iff` says what that means). -/
theorem step_drift_iff (c : Cfg α) (hsub : 1 ≤ c.subThresh) (s : State α) (hs : SInv s) (x : α) :
    (step c s x).drift = .drift ↔
      (scheduled c (afterAdd c s x) = true ∧ hit c (afterAdd c s x) = true) := by
  rcases step_loop c hsub s hs x with ⟨e, hq⟩ | ⟨hsch, k, hk, r⟩
  · rw [e, afterAdd_drift]
    exact ⟨nofun, fun ⟨h1, h2⟩ => nomatch (hq h1).symm.trans h2⟩
  · exact iff_of_true (r.pos hk).2.1 ⟨hsch, (r.pos hk).1⟩

/-- without a scheduled check the update only adds the sample -/
theorem step_unscheduled (c : Cfg α) (s : State α) (x : α) (h : scheduled c (afterAdd c s x) = false) :
    step c s x = afterAdd c s x := by
  rw [step_eq, shrink, h]; simp

/-- **the oldest buckets are dropped until no admissible split exceeds the cut**: the buckets
    after the update are those after adding the sample minus the `k` oldest; `k > 0` iff drift is
    reported; and after a scheduled check no split of the retained window is a hit. -/
theorem step_drops_oldest (c : Cfg α) (hsub : 1 ≤ c.subThresh) (s : State α) (hs : SInv s) (x : α) :
    (∃ k, flat (step c s x).rows = (flat (afterAdd c s x).rows).drop k ∧
      (0 < k ↔ (step c s x).drift = .drift)) ∧
    (scheduled c (afterAdd c s x) = true → hit c (step c s x) = false) := by
  rcases step_loop c hsub s hs x with ⟨e, hq⟩ | ⟨-, k, hk, r⟩
  · rw [e, afterAdd_drift]
    exact ⟨⟨0, rfl, iff_of_false (Nat.lt_irrefl 0) nofun⟩, hq⟩
  · exact ⟨⟨k, r.flat_eq, iff_of_true hk (r.pos hk).2.1⟩, fun _ => r.settled⟩

/-- **`retraining_recs = [total_samples − W, total_samples − 1]` at a drift (for the retained
    window), `[None, None]` otherwise** — in particular cleared by the update after a drift. -/
theorem step_recs (c : Cfg α) (hsub : 1 ≤ c.subThresh) (s : State α) (hs : SInv s) (x : α) :
    ((step c s x).drift = .drift →
      (step c s x).recs = (some ((step c s x).total - (step c s x).W), some ((step c s x).total - 1))
      ∧ (step c s x).W ≤ (step c s x).total) ∧
    ((step c s x).drift ≠ .drift → (step c s x).recs = Recs.empty) := by
  obtain ⟨-, -, ⟨h1, -, h3⟩ | ⟨h1, -, -, h4, h5, -⟩⟩ := step_cases c hsub s hs x
  · exact ⟨fun hd => (nomatch h1.symm.trans hd), fun _ => h3⟩
  · exact ⟨fun _ => ⟨h5, h4⟩, fun hd => absurd h1 hd⟩

end full

end MV.Adwin
