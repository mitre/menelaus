/-
  What one update of Linear Four Rates (Model/LFR.lean) does, for the property files to start from.
  The same few facts (what is left alone, the cache only grows, where a new entry comes from, what an open and
  what a closed gate give) are stated level by level: `getBounds`, one pass `calcRate`, the loop `loopFrom`;
  a rate named once in `rates_tracked` is written by exactly one pass (`loopFrom_of_mem`).  `step` copies the loop's
  results; its own equations are about the counters and the state before the update, readings of `preReset_eq`.
  The test schedule of an update is `gate c n` at `n = samples_since_reset` after the increment, that is at
  `(step c s yt yp bl).since` (`since_step` reads it on `s`).  A statement about `run c ops` goes by reverse
  induction on `ops` with `run_snoc`.
  No arithmetic law is used: everything holds for every carrier, in particular for the executed
  `Float` instance.  The only assumption, where stated, is reflexivity of `==` on the carrier
  (`ReflBEq`; at `Float` it fails for NaN only, and a rate is never NaN because every denominator is ≥ 2).
-/
import MenelausVerif.Model.LFR
import MenelausVerif.Model.ErrRecs
import MenelausVerif.Lemmas.Drift
namespace MV.LFR

@[simp] theorem Four.set_same {β : Type} (f : Four β) (r : Rate) (v : β) : (f.set r v) r = v := by
  simp [Four.set]

theorem Four.set_other {β : Type} (f : Four β) {r r' : Rate} (v : β) (h : r' ≠ r) :
    (f.set r v) r' = f r' := by
  simp [Four.set, h]

/-- a pointwise relation between two tables survives writing related values at the same rate -/
theorem Four.set_rel {β : Type} {F : β → β → Prop} {f g : Four β} {v w : β} (rate r : Rate)
    (h : F (f r) (g r)) (hv : F v w) : F ((f.set rate v) r) ((g.set rate w) r) := by
  unfold Four.set; split <;> assumption

section decide3
variable {α : Type}

theorem mem_allRates (r : Rate) : r ∈ allRates := by cases r <;> simp [allRates]

theorem any_allRates (f : Four Bool) : allRates.any f = true ↔ ∃ r, f r = true :=
  List.any_eq_true.trans ⟨fun ⟨r, _, h⟩ => ⟨r, h⟩, fun ⟨r, h⟩ => ⟨r, mem_allRates r, h⟩⟩

theorem decide3_eq_drift (a : Acc α) : decide3 a = .drift ↔ ∃ r, a.alarm r = true :=
  (Drift.table _ _).1.trans (any_allRates _)

theorem decide3_eq_warning (a : Acc α) :
    decide3 a = .warning ↔ (¬ ∃ r, a.alarm r = true) ∧ ∃ r, a.warn r = true :=
  (Drift.table _ _).2.1.trans (and_congr (not_congr (any_allRates _)) (any_allRates _))

end decide3

/-- which samples a rate reads: its own row / column of the confusion matrix -/
def affects : Rate → Bool → Bool → Bool
  | .tpr, yt, _ => yt
  | .tnr, yt, _ => !yt
  | .ppv, _, yp => yp
  | .npv, _, yp => !yp

/-- every cell is at least the pseudo-count -/
def Conf.Pos (cf : Conf) : Prop := 1 ≤ cf.tn ∧ 1 ≤ cf.fn ∧ 1 ≤ cf.fp ∧ 1 ≤ cf.tp

theorem Conf.bump_num (cf : Conf) (r : Rate) (yt yp : Bool) :
    (cf.bump yt yp).num r = cf.num r + (if affects r yt yp && (yt == yp) then 1 else 0) := by
  cases r <;> cases yt <;> cases yp <;> rfl

theorem Conf.bump_den (cf : Conf) (r : Rate) (yt yp : Bool) :
    (cf.bump yt yp).den r = cf.den r + (if affects r yt yp then 1 else 0) := by
  cases r <;> cases yt <;> cases yp <;> first | rfl | exact Nat.add_right_comm _ _ _

theorem Conf.Pos.num_lt_den {cf : Conf} (hp : cf.Pos) (r : Rate) : 0 < cf.num r ∧ cf.num r < cf.den r := by
  obtain ⟨h1, h2, h3, h4⟩ := hp
  cases r <;> simp only [Conf.num, Conf.den] <;> omega

/-- `_increment_retraining_recs` is DDM's rule: what `Lemmas/ErrTrace.lean` proves of `incRecsFirst` applies -/
theorem recsUpd_eq (r : Recs) (d : Drift) (i : Nat) : recsUpd r d i = incRecsFirst d i r := by
  rcases r with ⟨_ | a, r2⟩ <;> cases d <;> rfl

section lookup
variable {α : Type} [BEq α]

/-- the first match wins: entries appended to the cache are seen only by keys it did not hold -/
theorem lookup_append (k : α × Nat) (cache extra : Cache α) :
    lookup k (cache ++ extra) = (lookup k cache).or (lookup k extra) := by
  induction cache with
  | nil => rfl
  | cons e rest ih =>
    obtain ⟨k', b'⟩ := e
    simp only [List.cons_append, lookup]
    split
    · rfl
    · exact ih

theorem lookup_append_some {k : α × Nat} {b : Bounds α} (cache extra : Cache α)
    (h : lookup k cache = some b) : lookup k (cache ++ extra) = some b := by
  rw [lookup_append, h]; rfl

theorem lookup_append_none {k : α × Nat} (cache : Cache α) (k' : α × Nat) (b : Bounds α)
    (h : lookup k cache = none) :
    lookup k (cache ++ [(k', b)]) = if keyEq k' k then some b else none := by
  rw [lookup_append, h]; rfl

end lookup

theorem rates_congr {α : Type} [Div α] [NatCast α] (cf cf' : Conf) (r : Rate) (hn : cf.num r = cf'.num r)
    (hd : cf.den r = cf'.den r) : (rates cf r : α) = rates cf' r := by
  unfold rates; rw [hn, hd]

section preReset
variable {α : Type} [Div α] [NatCast α] (s : State α) (bl : List Block)

theorem preReset_of_drift (h : s.drift = .drift) : preReset s = reset s := if_pos h
theorem preReset_of_not_drift (h : s.drift ≠ .drift) : preReset s = s := if_neg h

/-- field by field: a pending drift restarts the epoch's counters and statistics; `total`, the cache and the
    trace stay -/
theorem preReset_eq : preReset s =
    { s with since := if s.drift = .drift then 0 else s.since,
             drift := if s.drift = .drift then .none else s.drift,
             recs := if s.drift = .drift then Recs.empty else s.recs,
             conf := if s.drift = .drift then Conf.init else s.conf,
             p := if s.drift = .drift then fun _ => half else s.p,
             r := if s.drift = .drift then fun _ => half else s.r } := by
  unfold preReset reset
  split <;> simp only [*]

theorem acc0_preReset_cache : (acc0 (preReset s) bl).cache = s.cache :=
  (congrArg State.cache (preReset_eq s) :)

end preReset

variable {α : Type} [Add α] [Sub α] [Mul α] [Div α] [LT α] [DecidableLT α] [LE α] [DecidableLE α]
  [NatCast α] [BEq α] [HasRound α]

section getBounds
variable (c : Cfg α) (a : Acc α) (est : α) (denom : Nat)

theorem getBounds_hit {b : Bounds α}
    (h : lookup (keyOf c est denom) a.cache = some b) : getBounds c a est denom = (b, a) := by
  unfold getBounds; simp [h]

theorem getBounds_miss (h : lookup (keyOf c est denom) a.cache = none) :
    getBounds c a est denom =
      (simNext c a denom,
       { a with cache := a.cache ++ [(keyOf c est denom, simNext c a denom)], blocks := a.blocks.tail,
                sims := a.sims ++ [⟨est, denom, !a.blocks.isEmpty, a.blocks.headD []⟩] }) := by
  unfold getBounds; simp [h]

theorem getBounds_frame :
    (getBounds c a est denom).2.r = a.r ∧ (getBounds c a est denom).2.p = a.p ∧
    (getBounds c a est denom).2.warn = a.warn ∧ (getBounds c a est denom).2.alarm = a.alarm := by
  cases h : lookup (keyOf c est denom) a.cache with
  | some b => rw [getBounds_hit c a est denom h]; exact ⟨rfl, rfl, rfl, rfl⟩
  | none => rw [getBounds_miss c a est denom h]; exact ⟨rfl, rfl, rfl, rfl⟩

theorem getBounds_mono {k : α × Nat} {b : Bounds α}
    (h : lookup k a.cache = some b) : lookup k (getBounds c a est denom).2.cache = some b := by
  cases hk : lookup (keyOf c est denom) a.cache with
  | some b' => rw [getBounds_hit c a est denom hk]; exact h
  | none => rw [getBounds_miss c a est denom hk]; exact lookup_append_some a.cache _ h

theorem getBounds_lookup [ReflBEq α] :
    lookup (keyOf c est denom) (getBounds c a est denom).2.cache = some (getBounds c a est denom).1 := by
  cases hk : lookup (keyOf c est denom) a.cache with
  | some b => rw [getBounds_hit c a est denom hk]; exact hk
  | none => rw [getBounds_miss c a est denom hk, lookup_append_none _ _ _ hk]; simp [keyEq]

theorem getBounds_new {k : α × Nat} {b : Bounds α}
    (h0 : lookup k a.cache = none) (h1 : lookup k (getBounds c a est denom).2.cache = some b) :
    keyEq (keyOf c est denom) k = true ∧ b = simNext c a denom := by
  cases hk : lookup (keyOf c est denom) a.cache with
  | some b' => rw [getBounds_hit c a est denom hk, h0] at h1; cases h1
  | none =>
    rw [getBounds_miss c a est denom hk, lookup_append_none _ _ _ h0] at h1
    split at h1
    · next hkey => exact ⟨hkey, (Option.some.inj h1).symm⟩
    · cases h1

end getBounds

section loop
variable (c : Cfg α) (x : Ctx α)

/-- the accumulator after the `_p_table` / `_r_stat` writes of one pass, before the bounds are fetched -/
def acc1 (a : Acc α) (rate : Rate) : Acc α :=
  { a with p := a.p.set rate (x.new rate), r := a.r.set rate (newR c x (a.r rate) rate) }

/-- what `_update_bounds_dict` returns in one pass whose gate is open -/
def passBounds (a : Acc α) (rate : Rate) : Bounds α × Acc α :=
  getBounds c (acc1 c x a rate) (x.new rate) (x.conf.den rate)

theorem calcRate_fields (a : Acc α) (rate : Rate) :
    (calcRate c x a rate).r = a.r.set rate (newR c x (a.r rate) rate) ∧
    (calcRate c x a rate).p = a.p.set rate (x.new rate) ∧
    (calcRate c x a rate).warn = (if gate c x.n then a.warn.set rate
      (outside (newR c x (a.r rate) rate) (passBounds c x a rate).1.lbWarn (passBounds c x a rate).1.ubWarn)
      else a.warn) ∧
    (calcRate c x a rate).alarm = (if gate c x.n then a.alarm.set rate
      (outside (newR c x (a.r rate) rate) (passBounds c x a rate).1.lbDetect (passBounds c x a rate).1.ubDetect)
      else a.alarm) ∧
    (calcRate c x a rate).cache = (if gate c x.n then (passBounds c x a rate).2.cache else a.cache) ∧
    (calcRate c x a rate).blocks = (if gate c x.n then (passBounds c x a rate).2.blocks else a.blocks) := by
  obtain ⟨f1, f2, f3, f4⟩ := getBounds_frame c (acc1 c x a rate) (x.new rate) (x.conf.den rate)
  unfold calcRate passBounds
  cases gate c x.n
  · exact ⟨rfl, rfl, rfl, rfl, rfl, rfl⟩
  · exact ⟨f1, f2, congrArg (Four.set · rate _) f3, congrArg (Four.set · rate _) f4, rfl, rfl⟩

theorem calcRate_cache (a : Acc α) (rate : Rate) :
    (calcRate c x a rate).cache = if gate c x.n then (passBounds c x a rate).2.cache else a.cache :=
  (calcRate_fields c x a rate).2.2.2.2.1

theorem calcRate_open [ReflBEq α] (a : Acc α) (rate : Rate) (hg : gate c x.n = true) :
    ∃ bd, lookup (keyOf c (x.new rate) (x.conf.den rate)) (calcRate c x a rate).cache = some bd ∧
      (calcRate c x a rate).warn = a.warn.set rate (outside ((calcRate c x a rate).r rate) bd.lbWarn bd.ubWarn) ∧
      (calcRate c x a rate).alarm = a.alarm.set rate (outside ((calcRate c x a rate).r rate) bd.lbDetect bd.ubDetect) := by
  obtain ⟨h1, -, h3, h4, h5, -⟩ := calcRate_fields c x a rate
  rw [h1, h3, h4, h5, hg, Four.set_same]
  exact ⟨_, getBounds_lookup c (acc1 c x a rate) (x.new rate) (x.conf.den rate), rfl, rfl⟩

theorem calcRate_new (a : Acc α) (rate : Rate) {k : α × Nat} {b : Bounds α}
    (h0 : lookup k a.cache = none) (h1 : lookup k (calcRate c x a rate).cache = some b) :
    gate c x.n = true ∧ keyEq (keyOf c (x.new rate) (x.conf.den rate)) k = true ∧
    b = simBounds c (x.conf.den rate) (a.blocks.headD []) := by
  rw [calcRate_cache] at h1
  split at h1
  · next hg => exact ⟨hg, getBounds_new c (acc1 c x a rate) _ _ h0 h1⟩
  · rw [h0] at h1; cases h1

/-- off the schedule a pass only writes `_p_table` and `_r_stat` -/
theorem calcRate_closed (a : Acc α) (rate : Rate) (hg : gate c x.n = false) :
    calcRate c x a rate = acc1 c x a rate := by
  unfold calcRate
  rw [hg]
  rfl

def loopFrom (c : Cfg α) (x : Ctx α) (a : Acc α) (l : List Rate) : Acc α := l.foldl (calcRate c x) a

@[simp] theorem loopFrom_nil (c : Cfg α) (x : Ctx α) (a : Acc α) : loopFrom c x a [] = a := rfl
@[simp] theorem loopFrom_cons (a : Acc α) (r : Rate) (l : List Rate) :
    loopFrom c x a (r :: l) = loopFrom c x (calcRate c x a r) l := rfl

theorem loopFrom_frame (l : List Rate) (a : Acc α) (r : Rate) (hr : r ∉ l) :
    (loopFrom c x a l).r r = a.r r ∧ (loopFrom c x a l).p r = a.p r ∧
    (loopFrom c x a l).warn r = a.warn r ∧ (loopFrom c x a l).alarm r = a.alarm r := by
  induction l generalizing a with
  | nil => simp
  | cons r' l ih =>
    have hne : r ≠ r' := fun h => hr (by simp [h])
    obtain ⟨h1, h2, h3, h4⟩ := ih (calcRate c x a r') (fun h => hr (by simp [h]))
    obtain ⟨g1, g2, g3, g4, -, -⟩ := calcRate_fields c x a r'
    rw [loopFrom_cons, h1, h2, h3, h4, g1, g2, g3, g4]
    cases gate c x.n
    · exact ⟨Four.set_other _ _ hne, Four.set_other _ _ hne, rfl, rfl⟩
    · exact ⟨Four.set_other _ _ hne, Four.set_other _ _ hne, Four.set_other _ _ hne, Four.set_other _ _ hne⟩

theorem loopFrom_mono (l : List Rate) (a : Acc α) {k : α × Nat} {b : Bounds α}
    (h : lookup k a.cache = some b) : lookup k (loopFrom c x a l).cache = some b := by
  induction l generalizing a with
  | nil => simpa using h
  | cons r' l ih =>
    refine ih _ ?_
    rw [calcRate_cache]
    split
    · exact getBounds_mono c _ _ _ h
    · exact h

theorem loopFrom_closed (l : List Rate) (a : Acc α) (hg : gate c x.n = false) :
    (loopFrom c x a l).warn = a.warn ∧ (loopFrom c x a l).alarm = a.alarm ∧
    (loopFrom c x a l).cache = a.cache ∧ (loopFrom c x a l).blocks = a.blocks := by
  induction l generalizing a with
  | nil => exact ⟨rfl, rfl, rfl, rfl⟩
  | cons r' l ih => rw [loopFrom_cons, calcRate_closed c x a r' hg]; exact ih (acc1 c x a r')

/-- a rate that occurs once in the list is written by one pass only -/
theorem loopFrom_of_mem {l : List Rate} (hnd : l.Nodup) (a : Acc α) {r : Rate} (hr : r ∈ l) :
    ∃ l1 l2, r ∉ l1 ∧ r ∉ l2 ∧ loopFrom c x a l = loopFrom c x (calcRate c x (loopFrom c x a l1) r) l2 := by
  obtain ⟨l1, l2, rfl⟩ := List.append_of_mem hr
  obtain ⟨-, h2, h3⟩ := List.nodup_append.mp hnd
  exact ⟨l1, l2, fun h => h3 r h r (List.mem_cons_self ..) rfl, (List.nodup_cons.mp h2).1, List.foldl_append ..⟩

theorem loopFrom_r (l : List Rate) (hnd : l.Nodup) (a : Acc α) (r : Rate) (hr : r ∈ l) :
    (loopFrom c x a l).r r = newR c x (a.r r) r ∧ (loopFrom c x a l).p r = x.new r := by
  obtain ⟨l1, l2, h1, h2, e⟩ := loopFrom_of_mem c x hnd a hr
  obtain ⟨f1, f2, -⟩ := loopFrom_frame c x l2 (calcRate c x (loopFrom c x a l1) r) r h2
  obtain ⟨g1, g2, -⟩ := calcRate_fields c x (loopFrom c x a l1) r
  rw [e, f1, f2, g1, g2, Four.set_same, Four.set_same, (loopFrom_frame c x l1 a r h1).1]
  exact ⟨rfl, rfl⟩

theorem loopFrom_open [ReflBEq α] (hg : gate c x.n = true) (l : List Rate) (hnd : l.Nodup)
    (a : Acc α) (r : Rate) (hr : r ∈ l) :
    ∃ bd, lookup (keyOf c (x.new r) (x.conf.den r)) (loopFrom c x a l).cache = some bd ∧
      (loopFrom c x a l).warn r = outside ((loopFrom c x a l).r r) bd.lbWarn bd.ubWarn ∧
      (loopFrom c x a l).alarm r = outside ((loopFrom c x a l).r r) bd.lbDetect bd.ubDetect := by
  obtain ⟨l1, l2, -, h2, e⟩ := loopFrom_of_mem c x hnd a hr
  obtain ⟨bd, hl, hw, ha⟩ := calcRate_open c x (loopFrom c x a l1) r hg
  obtain ⟨f1, -, f3, f4⟩ := loopFrom_frame c x l2 (calcRate c x (loopFrom c x a l1) r) r h2
  rw [e, f1, f3, f4, hw, ha, Four.set_same, Four.set_same]
  exact ⟨bd, loopFrom_mono c x l2 _ hl, rfl, rfl⟩

theorem loopFrom_new (l : List Rate) (a : Acc α) {k : α × Nat} {b : Bounds α}
    (h0 : lookup k a.cache = none) (h1 : lookup k (loopFrom c x a l).cache = some b) :
    gate c x.n = true ∧ ∃ r ∈ l, keyEq (keyOf c (x.new r) (x.conf.den r)) k = true ∧
      ∃ block, b = simBounds c (x.conf.den r) block := by
  induction l generalizing a with
  | nil => simp [h0] at h1
  | cons r' l ih =>
    rw [loopFrom_cons] at h1
    cases hc : lookup k (calcRate c x a r').cache with
    | none =>
      obtain ⟨hg, r, hr, hk, hb⟩ := ih _ hc h1
      exact ⟨hg, r, by simp [hr], hk, hb⟩
    | some b' =>
      obtain rfl : b' = b := Option.some.inj ((loopFrom_mono c x l _ hc).symm.trans h1)
      obtain ⟨hg, hk, hb⟩ := calcRate_new c x a r' h0 hc
      exact ⟨hg, r', by simp, hk, _, hb⟩

theorem loopFrom_hits (l : List Rate) (a : Acc α)
    (h : ∀ r ∈ l, ∃ b, lookup (keyOf c (x.new r) (x.conf.den r)) a.cache = some b) :
    (loopFrom c x a l).cache = a.cache := by
  induction l generalizing a with
  | nil => rfl
  | cons r l ih =>
    obtain ⟨b, hb⟩ := h r (by simp)
    have hc : (calcRate c x a r).cache = a.cache := by
      rw [calcRate_cache, passBounds, getBounds_hit c (acc1 c x a r) _ _ hb]
      split <;> rfl
    rw [loopFrom_cons, ih _ (fun r' hr' => by rw [hc]; exact h r' (by simp [hr'])), hc]

end loop

section step
variable (c : Cfg α) (s : State α) (yt yp : Bool) (bl : List Block)

/-- the accumulator the update's loop ends with: `step` copies `p`, `r`, `cache` from it and decides on its flags;
    the context of the loop can be read off the new state (`(ctxOf (preReset s) yt yp).n = (step c s yt yp bl).since`,
    `.conf = (step c s yt yp bl).conf`), all by definition -/
theorem stepAcc_eq :
    stepAcc c s yt yp bl = loopFrom c (ctxOf (preReset s) yt yp) (acc0 (preReset s) bl) c.tracked := rfl

theorem step_drift : (step c s yt yp bl).drift = decide3 (stepAcc c s yt yp bl) := rfl

theorem step_total : (step c s yt yp bl).total = s.total + 1 :=
  congrArg (·.total + 1) (preReset_eq s)

/-- `samples_since_reset` after an update: 1 after a drift, one more otherwise (reset on the update after drift) -/
theorem since_step (c : Cfg α) (s : State α) (yt yp : Bool) (bl : List Block) :
    (step c s yt yp bl).since = (if s.drift = .drift then 0 else s.since) + 1 :=
  congrArg (·.since + 1) (preReset_eq s)

theorem step_recs : (step c s yt yp bl).recs =
    recsUpd (if s.drift = .drift then Recs.empty else s.recs) (step c s yt yp bl).drift s.total :=
  congrArg (fun t : State α => recsUpd t.recs (step c s yt yp bl).drift t.total) (preReset_eq s)

theorem step_conf : (step c s yt yp bl).conf = (if s.drift = .drift then Conf.init else s.conf).bump yt yp :=
  congrArg (·.conf.bump yt yp) (preReset_eq s)

theorem step_states : (step c s yt yp bl).states = s.states ++ [(step c s yt yp bl).drift] :=
  congrArg (·.states ++ _) (preReset_eq s)

/-- off the test schedule no rate is tested and the cache gets no entry -/
theorem step_closed (hg : gate c (step c s yt yp bl).since = false) :
    (step c s yt yp bl).drift = .none ∧ (step c s yt yp bl).cache = s.cache := by
  obtain ⟨hw, ha, hc, -⟩ := loopFrom_closed c (ctxOf (preReset s) yt yp) c.tracked (acc0 (preReset s) bl) hg
  refine ⟨?_, hc.trans (acc0_preReset_cache s bl)⟩
  rw [step_drift, stepAcc_eq, decide3, ha, hw]
  rfl

end step

theorem run_snoc (c : Cfg α) (ops : List Op) (o : Op) :
    run c (ops ++ [o]) = step c (run c ops) o.yt o.yp o.blocks := by
  simp [run]

end MV.LFR
