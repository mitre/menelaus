/-
  One `NNDVI.update`, field by field.  The value returned and the drift decision are a function
  (`test`) of the stored reference, the batch and the supplied graph and draws — nothing else of the
  state is read — and `step_eq` writes out both components of `step` in terms of it: the state after
  the update, and the value returned, which is `test` of the stored reference itself.  The readings
  (`step_counters`, `step_drift_iff`, `step_reference`: the reference is replaced exactly by a reporting
  update) hold from any state; NNDVI has no invariant beyond `step_state_range`.
  Then histories of updates: `run` (the state) and `flags` (which updates reported drift).  Both recurse
  on the list, so under `induction ops generalizing s` the cons case is the induction hypothesis at
  `(step …).1` up to unfolding, and `run_append c s ops [op]` is the equation for the last update.
-/
import MenelausVerif.Model.NNSP
namespace MV.NNDVI
open MV MV.NNSP

/-- `d_act > theta_drift` of an accepted update; a rejected update reports nothing -/
def Out.alarm {α : Type} [LT α] [DecidableLT α] : Out α → Bool
  | .rejected => false
  | .ok d θ _ => exceeds d θ

variable {α : Type} [LT α] [DecidableLT α] [Add α] [Sub α] [Mul α] [Div α] [Neg α] [NatCast α] [HasSqrt α]

/-- what `update` computes from the stored reference: rejected, or distance, threshold and the
    validity of the supplied graph -/
def test (c : Cfg α) (ref : Option (List (Row α))) (X : List (Row α)) (adj : List (List Bool))
    (perms : List (List Nat)) : Out α :=
  match ref.bind (fun r => build c.k r X adj) with
  | none => .rejected
  | some b =>
    .ok (nnpsDistance b.nnps b.v1 b.v2) (threshold c.z (perms.map (shuffleDist b.nnps b.v1))) b.knnOk

theorem step_eq (c : Cfg α) (s : State α) (X : List (Row α)) (adj : List (List Bool))
    (perms : List (List Nat)) :
    step c s X adj perms =
      ({ total := s.total + 1, since := (if s.drift = .drift then 0 else s.since) + 1,
         drift := if (test c s.reference X adj perms).alarm then .drift
                  else if s.drift = .drift then .none else s.drift,
         reference := if (test c s.reference X adj perms).alarm then some X else s.reference },
       test c s.reference X adj perms) := by
  obtain ⟨t, n, d, r⟩ := s
  have hr : (if d = .drift then reset (State.mk t n d r) else State.mk t n d r) =
      { total := t, since := if d = .drift then 0 else n, drift := if d = .drift then .none else d,
        reference := r } := by
    split <;> rfl
  unfold step test
  rw [hr]
  cases r with
  | none => rfl
  | some ref =>
    simp only [Option.bind_some]
    cases build c.k ref X adj with
    | none => rfl
    | some b =>
      simp only [Out.alarm]
      by_cases he : exceeds (nnpsDistance b.nnps b.v1 b.v2)
          (threshold c.z (perms.map (shuffleDist b.nnps b.v1))) = true
      · simp [he]
      · simp [he]

/-- `update` begins with `if self.drift_state == "drift": self.reset()` -/
def pre (s : State α) : State α := if s.drift = .drift then reset s else s

theorem step_pre (c : Cfg α) (s : State α) (X : List (Row α)) (adj : List (List Bool))
    (perms : List (List Nat)) : step c (pre s) X adj perms = step c s X adj perms := by
  unfold pre
  split
  · rename_i hd
    rw [step_eq, step_eq c s, hd]; rfl
  · rfl

/-- counters: every call counts; `batches_since_reset` restarts after a drift -/
theorem step_counters (c : Cfg α) (s : State α) (X : List (Row α)) (adj : List (List Bool)) (perms : List (List Nat)) :
    (step c s X adj perms).1.total = s.total + 1 ∧
    (step c s X adj perms).1.since = (if s.drift = .drift then 0 else s.since) + 1 := by
  rw [step_eq]
  exact ⟨rfl, rfl⟩

theorem step_drift_iff (c : Cfg α) (s : State α) (X : List (Row α)) (adj : List (List Bool))
    (perms : List (List Nat)) :
    (step c s X adj perms).1.drift = .drift ↔ (test c s.reference X adj perms).alarm = true := by
  rw [step_eq]
  cases (test c s.reference X adj perms).alarm <;> cases s.drift <;> simp

theorem alarm_iff (c : Cfg α) (ref : Option (List (Row α))) (X : List (Row α)) (adj : List (List Bool))
    (perms : List (List Nat)) :
    (test c ref X adj perms).alarm = true ↔
      ∃ r b, ref = some r ∧ build c.k r X adj = some b ∧
        threshold c.z (perms.map (shuffleDist b.nnps b.v1)) < nnpsDistance b.nnps b.v1 b.v2 := by
  unfold test
  cases ref with
  | none => simp [Out.alarm]
  | some r =>
    cases hb : build c.k r X adj with
    | none => simp [Out.alarm, hb]
    | some b => simp [Out.alarm, hb, exceeds]

/-- The condition is the drift state *after* the update.  Settle it first and use `if_pos` / `if_neg`:
    rewriting it under the `if` (by `step_drift_iff`) fails, because its `Decidable` instance mentions it. -/
theorem step_reference (c : Cfg α) (s : State α) (X : List (Row α)) (adj : List (List Bool))
    (perms : List (List Nat)) :
    (step c s X adj perms).1.reference =
      if (step c s X adj perms).1.drift = .drift then some X else s.reference := by
  rw [step_eq]
  cases (test c s.reference X adj perms).alarm <;> cases s.drift <;> simp

/-- the state is only ever `none` or `drift` -/
theorem step_state_range (c : Cfg α) (s : State α) (X : List (Row α)) (adj : List (List Bool)) (perms : List (List Nat))
    (hs : s.drift ≠ .warning) : (step c s X adj perms).1.drift ≠ .warning := by
  rw [step_eq]
  dsimp only
  split
  · nofun
  · split
    · nofun
    · exact hs

/-- one update: the batch, the k-NN graph of the pooled points, the permutations drawn -/
abbrev Op (α : Type) := List (Row α) × List (List Bool) × List (List Nat)

def run (c : Cfg α) (s : State α) : List (List (Row α) × List (List Bool) × List (List Nat)) → State α
  | [] => s
  | op :: ops => run c (step c s op.1 op.2.1 op.2.2).1 ops

def flags (c : Cfg α) (s : State α) : List (List (Row α) × List (List Bool) × List (List Nat)) → List Bool
  | [] => []
  | op :: ops => decide ((step c s op.1 op.2.1 op.2.2).1.drift = .drift) :: flags c (step c s op.1 op.2.1 op.2.2).1 ops

theorem run_append (c : Cfg α) (s : State α) (ops ops' : List (Op α)) :
    run c s (ops ++ ops') = run c (run c s ops) ops' := by
  induction ops generalizing s with
  | nil => rfl
  | cons op ops ih => exact ih _

/-- after any history the reference is the most recent batch that was reported as drift
    (the initially set reference if there was none); `hs` is not used -/
theorem run_reference (c : Cfg α) (s : State α) (hs : s.drift ≠ .warning)
    (ops : List (List (Row α) × List (List Bool) × List (List Nat))) :
    (run c s ops).reference =
      (List.zip ops (flags c s ops)).foldl (fun r x => if x.2 = true then some x.1.1 else r) s.reference := by
  clear hs
  induction ops generalizing s with
  | nil => simp [run, flags]
  | cons op ops ih =>
    simp only [run, flags, List.zip_cons_cons, List.foldl_cons]
    rw [ih, step_reference]
    simp

theorem run_total (c : Cfg α) (s : State α) (ops : List (List (Row α) × List (List Bool) × List (List Nat))) :
    (run c s ops).total = s.total + ops.length := by
  induction ops generalizing s with
  | nil => simp [run]
  | cons op ops ih => simp only [run, ih, (step_counters c s _ _ _).1, List.length_cons]; omega

end MV.NNDVI
