/-
  The NNPS distance over an ordered field: the sum of the summands `|a - b| / (a + b)` over the two
  vectors of column sums, divided by `len(v1)` (`nnpsDistance_eq`).  Every summand lies in [0, 1], is
  symmetric and vanishes for `a = b` (also for `a + b = 0`, where the field's `x / 0 = 0` gives 0);
  hence the sum is symmetric, vanishes on equal vectors and lies between 0 and the number of summands.
-/
import MenelausVerif.Model.NNSP
import MenelausVerif.Lemmas.Carrier
import Mathlib.Algebra.Order.BigOperators.Group.List
namespace MV.NNSP

theorem sumL_eq_sum {K : Type} [Field K] (l : List K) : sumL l = l.sum := by
  unfold sumL; rw [foldl_add_eq_sum]; simp

theorem nnpsDistance_eq {K : Type} [Field K] [LinearOrder K] (M : List (List Nat)) (v1 v2 : List Bool) :
    (nnpsDistance M v1 v2 : K) =
      (List.zipWith term (vecMat v1 M (ncols M)) (vecMat v2 M (ncols M))).sum / (v1.length : K) := by
  simp only [nnpsDistance]
  rw [foldl_add_eq_sum, Nat.cast_zero, zero_add]

variable {K : Type} [Field K] [LinearOrder K] [IsStrictOrderedRing K]

theorem term_eq (a b : Nat) : (term a b : K) = |(a : K) - (b : K)| / ((a : K) + (b : K)) := by
  unfold term; rw [absOf_eq_abs]

theorem term_nonneg (a b : Nat) : (0 : K) ≤ term a b := by
  rw [term_eq]
  exact div_nonneg (abs_nonneg _) (add_nonneg (Nat.cast_nonneg a) (Nat.cast_nonneg b))

theorem term_le_one (a b : Nat) : (term a b : K) ≤ 1 := by
  rw [term_eq]
  have ha : (0 : K) ≤ a := Nat.cast_nonneg a
  have hb : (0 : K) ≤ b := Nat.cast_nonneg b
  exact div_le_one_of_le₀ ((abs_sub _ _).trans_eq (by rw [abs_of_nonneg ha, abs_of_nonneg hb]))
    (add_nonneg ha hb)

theorem term_comm (a b : Nat) : (term a b : K) = term b a := by
  rw [term_eq, term_eq, abs_sub_comm, add_comm]

theorem term_self (a : Nat) : (term a a : K) = 0 := by
  rw [term_eq]; simp

theorem zipWith_term_comm (m1 m2 : List Nat) :
    List.zipWith (term (α := K)) m1 m2 = List.zipWith term m2 m1 := by
  rw [List.zipWith_comm]
  exact congrArg (List.zipWith · m2 m1) (funext fun a => funext fun b => term_comm b a)

theorem sum_zipWith_term_self (m : List Nat) : (List.zipWith (term (α := K)) m m).sum = 0 := by
  rw [List.zipWith_self]
  apply List.sum_eq_zero
  intro x hx
  obtain ⟨a, _, rfl⟩ := List.mem_map.mp hx
  exact term_self a

/-- the upper bound is the length of the first list (`zipWith` truncates to the shorter one); this is
    why `dist_range` asks that the matrix be no wider than the membership vector it divides by -/
theorem termSum_bounds (m1 m2 : List Nat) :
    (0 : K) ≤ (List.zipWith term m1 m2).sum ∧ (List.zipWith (term (α := K)) m1 m2).sum ≤ (m1.length : K) := by
  have hterm : ∀ x ∈ List.zipWith (term (α := K)) m1 m2, 0 ≤ x ∧ x ≤ 1 := by
    intro x hx
    obtain ⟨i, _, rfl⟩ := List.mem_iff_getElem.mp hx
    rw [List.getElem_zipWith]
    exact ⟨term_nonneg _ _, term_le_one _ _⟩
  refine ⟨List.sum_nonneg fun x hx => (hterm x hx).1, ?_⟩
  refine le_trans (List.sum_le_card_nsmul _ 1 fun x hx => (hterm x hx).2) ?_
  simp only [nsmul_eq_mul, mul_one, List.length_zipWith]
  exact_mod_cast Nat.min_le_left _ _

end MV.NNSP
