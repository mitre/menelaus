/-
  The kdq-tree partitioner for every carrier (no arithmetic law is used): reading the counts
  dictionary after `cset` / `cbump`, routing (`Compl`: the two tests are complementary), the
  declarative description `Built` of what `build` returns, what `fill` does to the counts (read
  with the default 0), cells, and the rows of `to_plotly_dataframe`.

  A node is addressed in three ways that no lemma here connects: by its path with the rows routed along
  it (`Holds`, for what `build` made of it), by its pre-order number (`subtrees`, `nodeAt`, for the rows
  of `to_plotly_dataframe`), and as a position in the pre-order lists `nodeCounts` / `routed` (for
  `fill`).  Nor is `Present` connected to the model's `leavesHave`, which decides between a value and
  `KeyError` in `leafCounts?` / `klDistance?`.

  With Mathlib imported and `open MV.Kdq`, `Compl` and `Tree` are ambiguous with core's: write
  `Kdq.Compl`, `Kdq.Tree`.
-/
import MenelausVerif.Model.KdqTree
set_option linter.unusedSectionVars false
namespace MV.Kdq

theorem cget_cset (c : Counts) (i v j : Nat) :
    cget (cset c i v) j = if j = i then some v else cget c j := by
  induction c with
  | nil => simp [cset, cget, eq_comm]
  | cons kv cs ih =>
    obtain ⟨k, w⟩ := kv
    by_cases hj : k = j
    · subst hj; by_cases h : k = i <;> simp [cset, cget, h]
    · by_cases h : k = i
      · subst h; simp [cset, cget, hj, Ne.symm hj]
      · simp [cset, cget, h, hj, ih]

theorem cget_cbump (c : Counts) (i n : Nat) (rs : Bool) (j : Nat) :
    cget (cbump c i n rs) j =
      if j = i then some (if rs then n else match cget c i with | some o => o + n | none => n)
      else cget c j := by
  unfold cbump
  cases h : cget c i with
  | none => simp [cget_cset]
  | some o => cases rs <;> simp [cget_cset]

theorem cget_cbump_self (c : Counts) (i n : Nat) (rs : Bool) :
    cget (cbump c i n rs) i = some (if rs then n else match cget c i with | some o => o + n | none => n) := by
  rw [cget_cbump]; simp

theorem cget_cbump_ne (c : Counts) (i n : Nat) (rs : Bool) {j : Nat} (h : j ≠ i) :
    cget (cbump c i n rs) j = cget c j := by
  rw [cget_cbump]; simp [h]

/-- read with the default 0, a missing key and a key holding 0 are the same -/
theorem getD_cget_cbump_self (c : Counts) (i n : Nat) (rs : Bool) :
    (cget (cbump c i n rs) i).getD 0 = (if rs then 0 else (cget c i).getD 0) + n := by
  rw [cget_cbump_self]
  cases rs <;> cases cget c i <;> simp

theorem cget_cbump_fresh {c : Counts} {i : Nat} {rs : Bool} (h : rs = true ∨ cget c i = none) (n : Nat) :
    cget (cbump c i n rs) i = some n := by
  rw [cget_cbump_self]; rcases h with rfl | h <;> simp [*]

section routing
variable {α : Type} [Inhabited α] [LT α] [DecidableLT α] [LE α] [DecidableLE α]

/-- the two routing tests of `build` / `fill` are complementary: `x > mid ↔ ¬ x ≤ mid`.
    True in every linear order; for `Float` it fails only on NaN. -/
def Compl (α : Type) [LT α] [LE α] : Prop := ∀ x mid : α, mid < x ↔ ¬ x ≤ mid

theorem goesUp_eq_not_goesDown (hc : Compl α) (a : Nat) (mid : α) (p : List α) :
    goesUp a mid p = !goesDown a mid p := by
  unfold goesUp goesDown
  generalize p.getD a default = x
  have := hc x mid
  by_cases h : x ≤ mid <;> simp [h, this]

theorem split_length (hc : Compl α) (a : Nat) (mid : α) (pts : List (List α)) :
    (pts.filter (goesUp a mid)).length + (pts.filter (goesDown a mid)).length = pts.length := by
  induction pts with
  | nil => simp
  | cons p ps ih =>
    have h := goesUp_eq_not_goesDown hc a mid p
    cases hd : goesDown a mid p <;> simp [h, hd] <;> omega

end routing

section preds
variable {α : Type}

/-- at every internal node the count for `id` is the sum of the two children's, a missing key read as 0 -/
def ChildrenSum (id : Nat) : Tree α → Prop
  | .node a mid c l r =>
    (Tree.node a mid c l r).rootCount id = l.rootCount id + r.rootCount id ∧ ChildrenSum id l ∧ ChildrenSum id r
  | _ => True

/-- the key `id` is in the dictionary of every node object (`tree_id in d.keys()`); `nil` has no node
    object and is both `Present` and `Absent` -/
def Present (id : Nat) : Tree α → Prop
  | .nil => True
  | .leaf c => (cget c id).isSome
  | .node _ _ c l r => (cget c id).isSome ∧ Present id l ∧ Present id r

def Absent (id : Nat) : Tree α → Prop
  | .nil => True
  | .leaf c => cget c id = none
  | .node _ _ c l r => cget c id = none ∧ Absent id l ∧ Absent id r

/-- the dictionary entries for `id` of all node objects, in pre-order (the order of `subtrees` and `routed`) -/
def nodeCounts (id : Nat) : Tree α → List (Option Nat)
  | .nil => []
  | .leaf c => [cget c id]
  | .node _ _ c l r => cget c id :: (nodeCounts id l ++ nodeCounts id r)

def skeleton : Tree α → Tree α
  | .nil => .nil
  | .leaf _ => .leaf []
  | .node a mid _ l r => .node a mid [] (skeleton l) (skeleton r)

@[simp] theorem rootCount_nil (i : Nat) : (Tree.nil : Tree α).rootCount i = 0 := rfl
@[simp] theorem rootCount_leaf (c : Counts) (i : Nat) : (Tree.leaf c : Tree α).rootCount i = (cget c i).getD 0 := rfl
@[simp] theorem rootCount_node (a : Nat) (mid : α) (c : Counts) (l r : Tree α) (i : Nat) :
    (Tree.node a mid c l r).rootCount i = (cget c i).getD 0 := rfl

@[simp] theorem leafCountsD_nil (i : Nat) : leafCountsD (Tree.nil : Tree α) i = [] := rfl
@[simp] theorem leafCountsD_leaf (c : Counts) (i : Nat) :
    leafCountsD (Tree.leaf c : Tree α) i = [(cget c i).getD 0] := rfl
@[simp] theorem leafCountsD_node (a : Nat) (mid : α) (c : Counts) (l r : Tree α) (i : Nat) :
    leafCountsD (Tree.node a mid c l r) i = leafCountsD l i ++ leafCountsD r i :=
  List.map_append

@[simp] theorem numLeaves_nil : (Tree.nil : Tree α).numLeaves = 0 := rfl
@[simp] theorem numLeaves_leaf (c : Counts) : (Tree.leaf c : Tree α).numLeaves = 1 := rfl
@[simp] theorem numLeaves_node (a : Nat) (mid : α) (c : Counts) (l r : Tree α) :
    (Tree.node a mid c l r).numLeaves = l.numLeaves + r.numLeaves :=
  List.length_append

theorem ne_nil_of_noNilBelow {t : Tree α} (h : t.noNilBelow = true) : t ≠ .nil := by
  rintro rfl; cases h

theorem leafSum_eq_rootCount (id : Nat) (t : Tree α) (h : ChildrenSum id t) :
    (leafCountsD t id).sum = t.rootCount id := by
  induction t with
  | nil => rfl
  | leaf c => simp
  | node a mid c l r ihl ihr => rw [leafCountsD_node, List.sum_append, ihl h.2.1, ihr h.2.2, h.1]

theorem absent_childrenSum (id : Nat) (t : Tree α) (h : Absent id t) : ChildrenSum id t ∧ t.rootCount id = 0 := by
  induction t with
  | nil => simp [ChildrenSum]
  | leaf c => simp only [Absent] at h; simp [ChildrenSum, h]
  | node a mid c l r ihl ihr =>
    obtain ⟨h0, hl, hr⟩ := h
    obtain ⟨l1, l2⟩ := ihl hl
    obtain ⟨r1, r2⟩ := ihr hr
    simp [ChildrenSum, h0, l1, l2, r1, r2]

end preds

section built
variable {α : Type} [Inhabited α] [Add α] [Sub α] [Div α] [LT α] [DecidableLT α]
  [LE α] [DecidableLE α] [NatCast α] [BEq α]

theorem stops_eq_false_iff {ub : Nat} {mins : List α} {data : List (List α)} {axis : Nat} :
    stops ub mins data axis = false ↔
      ub < data.length ∧ ub < uniqueCount data.flatten ∧
      ¬ midpoint data axis - minOf (col data axis) ≤ mins.getD axis default := by
  simp only [stops, Bool.or_eq_false_iff, decide_eq_false_iff_not, Nat.not_le, and_assoc]

/-- `Built ub mins m d data t`: `t` is the kdq-tree of the rows `data` at depth `d`:
    `None` for no rows, a leaf carrying the row count when the stop rule applies, otherwise a
    node splitting axis `d mod m` at the midpoint of the rows' range on that axis, whose
    children are the trees of the rows `≤ mid` and `> mid` at depth `d + 1`. -/
inductive Built (ub : Nat) (mins : List α) (m : Nat) : Nat → List (List α) → Tree α → Prop
  | nil {d : Nat} {data : List (List α)} (h : data.length = 0 ∨ m = 0) : Built ub mins m d data .nil
  | leaf {d : Nat} {data : List (List α)} (h : ¬ (data.length = 0 ∨ m = 0))
      (hs : stops ub mins data (d % m) = true) : Built ub mins m d data (.leaf [(0, data.length)])
  | node {d : Nat} {data : List (List α)} {l r : Tree α} (h : ¬ (data.length = 0 ∨ m = 0))
      (hs : stops ub mins data (d % m) = false)
      (hl : Built ub mins m (d + 1) (data.filter (goesDown (d % m) (midpoint data (d % m)))) l)
      (hr : Built ub mins m (d + 1) (data.filter (goesUp (d % m) (midpoint data (d % m)))) r) :
      Built ub mins m d data
        (.node (d % m) (midpoint data (d % m))
          [(0, (data.filter (goesUp (d % m) (midpoint data (d % m)))).length +
               (data.filter (goesDown (d % m) (midpoint data (d % m)))).length)] l r)

theorem buildAux_built (ub : Nat) (mins : List α) (m fuel d : Nat) (data : List (List α)) (t : Tree α)
    (h : buildAux ub mins m fuel d data = some t) : Built ub mins m d data t := by
  fun_induction buildAux ub mins m fuel d data generalizing t with
  | case1 => cases h
  | case2 _ _ _ h0 => cases h; exact .nil h0
  | case3 _ _ _ h0 _ hs => cases h; exact .leaf h0 hs
  | case4 _ _ _ h0 _ hs _ _ _ l r hr hl ihl ihr =>
    cases h; exact .node h0 (Bool.not_eq_true _ ▸ hs) (ihl _ hl) (ihr _ hr)
  | case5 => cases h

variable {ub : Nat} {mins : List α} {m d : Nat} {data : List (List α)} {t : Tree α}

theorem Built.counts (hc : Compl α) (hm : 0 < m) (h : Built ub mins m d data t) :
    ChildrenSum 0 t ∧ t.rootCount 0 = data.length ∧ Present 0 t := by
  induction h with
  | nil h => simp [ChildrenSum, Present, h.resolve_right (by omega)]
  | leaf h hs => simp [ChildrenSum, Present, cget]
  | @node d data l r h hs hl hr ihl ihr =>
    obtain ⟨l1, l2, l3⟩ := ihl
    obtain ⟨r1, r2, r3⟩ := ihr
    simp only [ChildrenSum, Present, rootCount_node, cget, if_true, Option.getD_some, Option.isSome_some, true_and]
    exact ⟨⟨by rw [l2, r2]; omega, l1, r1⟩, split_length hc _ _ _, l3, r3⟩

theorem Built.absent (h : Built ub mins m d data t) {j : Nat} (hj : j ≠ 0) : Absent j t := by
  induction h with
  | nil h => trivial
  | leaf h hs => simp [Absent, cget, Ne.symm hj]
  | node h hs hl hr ihl ihr => exact ⟨by simp [cget, Ne.symm hj], ihl, ihr⟩

/-- `s` is the subtree of `t` reached by some path, `q` are the rows of `pts` that the stored
    splits route to it, `ds` its depth (when `t` is at depth `d`) -/
inductive Holds : Tree α → Nat → List (List α) → Tree α → Nat → List (List α) → Prop
  | here (t : Tree α) (d : Nat) (pts : List (List α)) : Holds t d pts t d pts
  | left {a : Nat} {mid : α} {c : Counts} {l r s : Tree α} {d ds : Nat} {pts q : List (List α)}
      (h : Holds l (d + 1) (pts.filter (goesDown a mid)) s ds q) : Holds (.node a mid c l r) d pts s ds q
  | right {a : Nat} {mid : α} {c : Counts} {l r s : Tree α} {d ds : Nat} {pts q : List (List α)}
      (h : Holds r (d + 1) (pts.filter (goesUp a mid)) s ds q) : Holds (.node a mid c l r) d pts s ds q

theorem Built.holds {ds : Nat} {q : List (List α)} {s : Tree α} (h : Built ub mins m d data t)
    (hh : Holds t d data s ds q) : Built ub mins m ds q s := by
  induction hh with
  | here => exact h
  | left _ ih => cases h with | node _ _ hl hr => exact ih hl
  | right _ ih => cases h with | node _ _ hl hr => exact ih hr

/-- no `Compl` needed: `build` and `fill` both store `upper.length + lower.length` at a node -/
theorem Built.fill_same (h : Built ub mins m d data t) (id : Nat) (rs : Bool) (hfresh : rs = true ∨ Absent id t) :
    nodeCounts id (fill id rs data t) = nodeCounts 0 t := by
  induction h with
  | nil h => rfl
  | leaf h hs => simp [fill, nodeCounts, cget_cbump_fresh hfresh, cget]
  | node h hs hl hr ihl ihr =>
    simp [fill, nodeCounts, cget_cbump_fresh (hfresh.imp_right (·.1)), cget, ihl (hfresh.imp_right (·.2.1)),
      ihr (hfresh.imp_right (·.2.2))]

end built

section fill
variable {α : Type} [Inhabited α] [LT α] [DecidableLT α] [LE α] [DecidableLE α]

/-- how many of `pts` the stored splits route to each node object, in pre-order -/
def routed : Tree α → List (List α) → List Nat
  | .nil, _ => []
  | .leaf _, pts => [pts.length]
  | .node a mid _ l r, pts =>
    pts.length :: (routed l (pts.filter (goesDown a mid)) ++ routed r (pts.filter (goesUp a mid)))

theorem routed_length (id : Nat) (t : Tree α) (pts : List (List α)) :
    (routed t pts).length = (nodeCounts id t).length := by
  induction t generalizing pts <;> simp [routed, nodeCounts, *]

theorem noNilBelow_fill (id : Nat) (rs : Bool) (t : Tree α) (pts : List (List α)) :
    (fill id rs pts t).noNilBelow = t.noNilBelow := by
  induction t generalizing pts <;> simp [fill, Tree.noNilBelow, *]

theorem numLeaves_fill (id : Nat) (rs : Bool) (t : Tree α) :
    ∀ pts : List (List α), (fill id rs pts t).numLeaves = t.numLeaves := by
  induction t <;> simp [fill, *]

theorem leafCountsD_fill_ne (id : Nat) (rs : Bool) {j : Nat} (hj : j ≠ id) (t : Tree α) (pts : List (List α)) :
    leafCountsD (fill id rs pts t) j = leafCountsD t j := by
  induction t generalizing pts <;> simp [fill, cget_cbump_ne _ _ _ _ hj, *]

theorem fill_other (id : Nat) (rs : Bool) {j : Nat} (hj : j ≠ id) (t : Tree α) :
    ∀ pts : List (List α),
      (fill id rs pts t).rootCount j = t.rootCount j ∧
      (ChildrenSum j t → ChildrenSum j (fill id rs pts t)) ∧
      (Present j t → Present j (fill id rs pts t)) ∧
      (Absent j t → Absent j (fill id rs pts t)) := by
  induction t with
  | nil => intro pts; simp [fill]
  | leaf c => intro pts; simp [fill, ChildrenSum, Present, Absent, cget_cbump_ne _ _ _ _ hj]
  | node a mid c l r ihl ihr =>
    intro pts
    obtain ⟨l1, l2, l3, l4⟩ := ihl (pts.filter (goesDown a mid))
    obtain ⟨r1, r2, r3, r4⟩ := ihr (pts.filter (goesUp a mid))
    simp only [fill, rootCount_node, ChildrenSum, Present, Absent, cget_cbump_ne _ _ _ _ hj, l1, r1]
    exact ⟨trivial, fun h => ⟨h.1, l2 h.2.1, r2 h.2.2⟩, fun h => ⟨h.1, l3 h.2.1, r3 h.2.2⟩,
      fun h => ⟨h.1, l4 h.2.1, r4 h.2.2⟩⟩

theorem present_or_absent_fill (id : Nat) (rs : Bool) (t : Tree α) :
    ∀ pts : List (List α), Present id (fill id rs pts t) := by
  induction t <;> simp [fill, Present, cget_cbump_self, *]

theorem rootCount_fill (hc : Compl α) (id : Nat) (rs : Bool) (pts : List (List α)) {t : Tree α} (h : t ≠ .nil) :
    (fill id rs pts t).rootCount id = (if rs then 0 else t.rootCount id) + pts.length := by
  cases t with
  | nil => exact absurd rfl h
  | leaf c => exact getD_cget_cbump_self ..
  | node a mid c l r => simp only [fill, rootCount_node, getD_cget_cbump_self, split_length hc]

theorem childrenSum_fill (hc : Compl α) (id : Nat) (rs : Bool) (t : Tree α) :
    ∀ pts : List (List α), t.noNilBelow = true → (rs = true ∨ ChildrenSum id t) →
      ChildrenSum id (fill id rs pts t) := by
  induction t with
  | nil => intro _ h; cases h
  | leaf c => intro _ _ _; trivial
  | node a mid c l r ihl ihr =>
    intro pts hn h
    simp only [Tree.noNilBelow, Bool.and_eq_true] at hn
    refine ⟨?_, ihl _ hn.1 (h.imp_right (·.2.1)), ihr _ hn.2 (h.imp_right (·.2.2))⟩
    show (fill id rs pts (.node a mid c l r)).rootCount id = _
    -- root, left and right each gain the rows routed to them; those of the children add up to the root's
    rw [rootCount_fill hc id rs pts (by simp), rootCount_fill hc id rs _ (ne_nil_of_noNilBelow hn.1),
      rootCount_fill hc id rs _ (ne_nil_of_noNilBelow hn.2), ← split_length hc a mid pts]
    cases rs
    · simp only [Bool.false_eq_true, if_false, (h.resolve_left Bool.false_ne_true).1]; omega
    · simp only [if_true]; omega

theorem leafSum_fill (hc : Compl α) (id : Nat) (rs : Bool) (t : Tree α) :
    ∀ pts : List (List α), t.noNilBelow = true →
      (leafCountsD (fill id rs pts t) id).sum = (if rs then 0 else (leafCountsD t id).sum) + pts.length := by
  induction t with
  | nil => intro _ h; cases h
  | leaf c => intro pts _; simp [fill, getD_cget_cbump_self]
  | node a mid c l r ihl ihr =>
    intro pts hn
    simp only [Tree.noNilBelow, Bool.and_eq_true] at hn
    simp only [fill, leafCountsD_node, List.sum_append, ihl _ hn.1, ihr _ hn.2, ← split_length hc a mid pts]
    split <;> omega

end fill

section descend
variable {α : Type} [Inhabited α] [LT α] [DecidableLT α]

theorem descend_lt {t : Tree α} (h : t.noNilBelow = true) (p : List α) : descend p t < t.numLeaves := by
  induction t with
  | nil => simp [Tree.noNilBelow] at h
  | leaf c => simp [descend]
  | node a mid c l r ihl ihr =>
    simp only [Tree.noNilBelow, Bool.and_eq_true] at h
    have := ihl h.1; have := ihr h.2
    simp only [descend, numLeaves_node]
    split <;> omega

end descend

section cells
variable {α : Type} [Inhabited α] [LT α] [DecidableLT α] [LE α] [DecidableLE α]

theorem numLeaves_pos {t : Tree α} (h : t.noNilBelow = true) : 0 < t.numLeaves :=
  Nat.zero_lt_of_lt (descend_lt h [])

theorem inCell_iff_descend (hc : Compl α) {t : Tree α} (h : t.noNilBelow = true) (p : List α) :
    ∀ k, k < t.numLeaves → (inCell p t k = true ↔ k = descend p t) := by
  induction t with
  | nil => cases h
  | leaf c => intro k hk; simp at hk; simp [inCell, descend, hk]
  | node a mid c l r ihl ihr =>
    intro k hk
    simp only [Tree.noNilBelow, Bool.and_eq_true] at h
    rw [numLeaves_node] at hk
    have dl := descend_lt h.1 p
    simp only [inCell, descend, goesUp_eq_not_goesDown hc]
    -- `k` a leaf of the left / the right subtree, the point routed up / down
    by_cases hkl : k < l.numLeaves <;> cases hd : goesDown a mid p
    · simp [hkl]; omega
    · simpa [hkl] using ihl h.1 k hkl
    · simp [hkl, ihr h.2 (k - l.numLeaves) (by omega)]; omega
    · simp [hkl]; omega

end cells

section flat
variable {α : Type}

def subtrees : Tree α → List (Tree α)
  | .nil => []
  | .leaf c => [.leaf c]
  | .node a mid c l r => .node a mid c l r :: (subtrees l ++ subtrees r)

theorem subtrees_length (t : Tree α) : (subtrees t).length = t.numNodes := by
  induction t with
  | nil => rfl
  | leaf c => rfl
  | node a mid c l r ihl ihr => simp [subtrees, Tree.numNodes, ihl, ihr]; omega

/-- the `count_diff` entry of `as_flattened_array` -/
def diffOf (id1 : Nat) (id2 : Option Nat) (s : Tree α) : Option Int :=
  id2.map (fun j => ((s.rootCount j : Nat) : Int) - ((s.rootCount id1 : Nat) : Int))

theorem mkRow_diff (c : Counts) (n1 : Nat) (id2 : Option Nat) (idx : Nat) (par : Option Nat) (d : Nat)
    (via : Option (Nat × Bool)) :
    (mkRow c n1 id2 idx par d via).diff = id2.map (fun j => (((cget c j).getD 0 : Nat) : Int) - (n1 : Int)) := by
  cases id2 with
  | none => rfl
  | some j => simp only [mkRow, Option.map_some]; cases cget c j <;> simp

theorem flattenAux_spec (id1 : Nat) (id2 : Option Nat) (t : Tree α) (hp : Present id1 t) :
    ∀ (i0 : Nat) (par : Option Nat) (d0 : Nat) (via0 : Option (Nat × Bool)),
      (flattenAux id1 id2 t i0 par d0 via0).length = t.numNodes ∧
      (flattenAux id1 id2 t i0 par d0 via0).map (·.idx) = List.range' i0 t.numNodes ∧
      (flattenAux id1 id2 t i0 par d0 via0).map (·.cell) = (subtrees t).map (·.rootCount id1) ∧
      (flattenAux id1 id2 t i0 par d0 via0).map (·.diff) = (subtrees t).map (diffOf id1 id2) := by
  induction t with
  | nil => intro i0 par d0 via0; simp [flattenAux, Tree.numNodes, subtrees]
  | leaf c =>
    intro i0 par d0 via0
    simp only [Present] at hp
    obtain ⟨n1, hn⟩ := Option.isSome_iff_exists.mp hp
    simp [flattenAux, hn, Tree.numNodes, subtrees, mkRow_diff, diffOf]
    simp [mkRow]
  | node a mid c l r ihl ihr =>
    intro i0 par d0 via0
    obtain ⟨hp0, hpl, hpr⟩ := hp
    obtain ⟨n1, hn⟩ := Option.isSome_iff_exists.mp hp0
    obtain ⟨l1, l2, l3, l4⟩ := ihl hpl (i0 + 1) (some i0) (d0 + 1) (some (a, false))
    obtain ⟨r1, r2, r3, r4⟩ := ihr hpr (i0 + 1 + l.numNodes) (some i0) (d0 + 1) (some (a, true))
    simp only [flattenAux, hn, List.length_cons, List.length_append, List.map_cons, List.map_append, l1, r1, l2, l3, l4,
      r2, r3, r4, Tree.numNodes, subtrees, mkRow_diff, diffOf, rootCount_node, Option.getD_some]
    refine ⟨by omega, ?_, ?_, trivial⟩
    · rw [show 1 + l.numNodes + r.numNodes = (l.numNodes + r.numNodes) + 1 by omega, List.range'_succ]
      simp only [mkRow]
      rw [← List.range'_append_1]
    · simp [mkRow]

theorem subtrees_head (t : Tree α) (h : t.numNodes ≠ 0) : ∃ rest, subtrees t = t :: rest := by
  cases t with
  | nil => simp [Tree.numNodes] at h
  | leaf c => exact ⟨[], rfl⟩
  | node a mid c l r => exact ⟨_, rfl⟩

theorem rootCount_le_root (id : Nat) (t : Tree α) (h : ChildrenSum id t) :
    ∀ s ∈ subtrees t, s.rootCount id ≤ t.rootCount id := by
  induction t with
  | nil => intro s hs; simp [subtrees] at hs
  | leaf c => intro s hs; simp [subtrees] at hs; subst hs; exact Nat.le_refl _
  | node a mid c l r ihl ihr =>
    obtain ⟨h0, hl, hr⟩ := h
    intro s hs
    simp only [subtrees, List.mem_cons, List.mem_append] at hs
    rcases hs with rfl | hs | hs
    · exact Nat.le_refl _
    · exact h0 ▸ Nat.le_trans (ihl hl s hs) (Nat.le_add_right _ _)
    · exact h0 ▸ Nat.le_trans (ihr hr s hs) (Nat.le_add_left _ _)

theorem maxNat_eq {xs : List Nat} {x : Nat} (hx : x ∈ xs) (h : ∀ y ∈ xs, y ≤ x) : maxNat xs = x := by
  have : xs.max? = some x := List.max?_eq_some_iff.mpr ⟨hx, h⟩
  rw [maxNat, show Nat.max = max from rfl, List.foldl_max, this, Option.getD_some, Nat.max_eq_right (Nat.zero_le x)]

/-- the node object with pre-order number `k` (`id(node)` canonicalised: the root is 0, the left child
    of number `p` is `p + 1`, its right child `p + 1 + numNodes left`), together with its depth -/
def nodeAt : Tree α → Nat → Option (Tree α × Nat)
  | .nil, _ => none
  | .leaf c, k => if k = 0 then some (.leaf c, 0) else none
  | .node a mid c l r, k =>
    if k = 0 then some (.node a mid c l r, 0)
    else if k - 1 < l.numNodes then (nodeAt l (k - 1)).map (fun p => (p.1, p.2 + 1))
    else (nodeAt r (k - 1 - l.numNodes)).map (fun p => (p.1, p.2 + 1))

theorem nodeAt_lt (t : Tree α) : ∀ k s d, nodeAt t k = some (s, d) → k < t.numNodes := by
  induction t with
  | nil => intro k s d h; simp [nodeAt] at h
  | leaf c => intro k s d h; simp only [nodeAt] at h; split at h <;> simp_all [Tree.numNodes]
  | node a mid c l r ihl ihr =>
    intro k s d h
    simp only [nodeAt] at h
    simp only [Tree.numNodes]
    split at h
    · omega
    · split at h
      · omega
      · obtain ⟨p, h2, -⟩ := Option.map_eq_some_iff.mp h
        have := ihr _ p.1 p.2 h2; omega

theorem nodeAt_left (a : Nat) (mid : α) (c : Counts) (l r : Tree α) {k : Nat} (h : k < l.numNodes) :
    nodeAt (.node a mid c l r) (k + 1) = (nodeAt l k).map (fun p => (p.1, p.2 + 1)) := by
  simp [nodeAt, h]

theorem nodeAt_right (a : Nat) (mid : α) (c : Counts) (l r : Tree α) (k : Nat) :
    nodeAt (.node a mid c l r) (l.numNodes + k + 1) = (nodeAt r k).map (fun p => (p.1, p.2 + 1)) := by
  simp [nodeAt, Nat.not_lt.mpr (Nat.le_add_right _ k)]

/-- what a row must say about its parent: it is the first row of this (sub)tree and carries the values
    handed down, or its parent is the internal node with pre-order number `k` in `t` (row number
    `i0 + k`), one level higher, and the row's own number is that of the node's left or right child -/
def RowOK (t : Tree α) (i0 : Nat) (par : Option Nat) (d0 : Nat) (via0 : Option (Nat × Bool)) (row : Row) : Prop :=
  (row.idx = i0 ∧ row.parent = par ∧ row.depth = d0 ∧ row.via = via0) ∨
  (∃ k a mid c l r dp, row.parent = some (i0 + k) ∧ nodeAt t k = some (Tree.node a mid c l r, dp) ∧
    row.depth = d0 + dp + 1 ∧
    ((row.idx = i0 + k + 1 ∧ row.via = some (a, false)) ∨
     (row.idx = i0 + k + 1 + l.numNodes ∧ row.via = some (a, true))))

theorem flattenAux_parent (id1 : Nat) (id2 : Option Nat) (t : Tree α) (hp : Present id1 t) :
    ∀ (i0 : Nat) (par : Option Nat) (d0 : Nat) (via0 : Option (Nat × Bool)),
      ∀ row ∈ flattenAux id1 id2 t i0 par d0 via0, RowOK t i0 par d0 via0 row := by
  induction t with
  | nil => intro i0 par d0 via0 row h; cases h
  | leaf c =>
    intro i0 par d0 via0 row h
    obtain ⟨n1, hn⟩ := Option.isSome_iff_exists.mp hp
    simp only [flattenAux, hn, List.mem_singleton] at h
    subst h
    exact Or.inl ⟨rfl, rfl, rfl, rfl⟩
  | node a mid c l r ihl ihr =>
    intro i0 par d0 via0 row h
    obtain ⟨hp0, hpl, hpr⟩ := hp
    obtain ⟨n1, hn⟩ := Option.isSome_iff_exists.mp hp0
    have hlen := (flattenAux_spec id1 id2 l hpl (i0 + 1) (some i0) (d0 + 1) (some (a, false))).1
    simp only [flattenAux, hn, List.mem_cons, List.mem_append, hlen] at h
    -- a row of a child: its first row hangs under this node (number `i0`), the others keep their parent one level down
    rcases h with rfl | h | h
    · exact Or.inl ⟨rfl, rfl, rfl, rfl⟩
    · rcases ihl hpl _ _ _ _ row h with ⟨h1, h2, h3, h4⟩ | ⟨k, a', mid', c', l', r', dp, h1, h3, h4, h5⟩
      · exact .inr ⟨0, a, mid, c, l, r, 0, h2, rfl, h3, .inl ⟨h1, h4⟩⟩
      · refine .inr ⟨k + 1, a', mid', c', l', r', dp + 1, h1.trans (congrArg some (Nat.add_right_comm i0 1 k)),
          ?_, h4.trans (by omega), by rwa [← Nat.add_assoc, Nat.add_right_comm i0 k 1]⟩
        rw [nodeAt_left _ _ _ _ _ (nodeAt_lt l _ _ _ h3), h3]; rfl
    · rcases ihr hpr _ _ _ _ row h with ⟨h1, h2, h3, h4⟩ | ⟨k, a', mid', c', l', r', dp, h1, h3, h4, h5⟩
      · exact .inr ⟨0, a, mid, c, l, r, 0, h2, rfl, h3, .inr ⟨h1, h4⟩⟩
      · refine .inr ⟨l.numNodes + k + 1, a', mid', c', l', r', dp + 1, h1.trans (congrArg some (by omega)),
          ?_, h4.trans (by omega), ?_⟩
        · rw [nodeAt_right, h3]; rfl
        · rwa [show i0 + (l.numNodes + k + 1) = i0 + 1 + l.numNodes + k by omega]

end flat

end MV.Kdq
