/-
  What one call of HDDDM / CDBD (Model/HDM.lean) does, for every carrier (no law is used): the body of
  `update` as one record (`updateCore_eq`) with its readings per field and per branch, `reset` and
  `set_reference` as equations and by their effect, which calls read which oracle value, the public `update`
  as validation and body in the state the pending `reset` leaves, the lifecycle invariant `Inv` that makes
  that state an in-epoch one, the public call's drift decision, counters and reference, induction over
  histories (`run_induction`; `inv_init` for one from `init`).

  From any state: the inversions (`update_eq_some`, `setReference_eq_some`, `preState_cases`, `reset_spec`), every
  `updateCore_*` reading, and `Inv.of_reset` / `Inv.of_setReference`, which establish `Inv` whatever came before;
  `updateCore_inv`, `step_inv`, `run_inv` preserve it.  What `Inv s` adds to an accepted `update` is that the body
  runs in a state with `Inv` and `drift = .none`, not `.warning` (`update_eq_some_of_inv`); the drift decision
  (`update_drift_iff`, `update_no_early_drift`) rests on that, counters (`update_total_since`) and reference do
  not.  `reset` returns the whole reference for every `detect_batch` (`Restarted.reference`): `detect_batch = 1`
  shows only in `Restarted.since` and `.total`.
-/
import MenelausVerif.Model.HDM
import MenelausVerif.Lemmas.Drift
namespace MV.HDM

section noInstance
variable {α : Type}

theorem testsDrift_true_iff (c : Cfg α) (n : Nat) :
    testsDrift c n = true ↔ (2 ≤ n ∧ c.detectBatch ≠ 3) ∨ (3 ≤ n ∧ c.detectBatch = 3) := by
  simp [testsDrift]

theorem two_le_of_testsDrift {c : Cfg α} {n : Nat} (h : testsDrift c n = true) : 2 ≤ n :=
  ((testsDrift_true_iff c n).1 h).elim And.left fun h3 => Nat.le_of_succ_le h3.1

theorem testsDrift_ge (c : Cfg α) (n : Nat) (h3 : c.detectBatch ≤ 3) (h : testsDrift c n = true) :
    n ≥ max 2 c.detectBatch := by
  have := (testsDrift_true_iff c n).1 h
  omega

theorem testsDrift_eq_false {c : Cfg α} {n : Nat} (h : n < 2) : testsDrift c n = false :=
  Bool.eq_false_iff.2 fun ht => Nat.not_le.2 h (two_le_of_testsDrift ht)

theorem validBatch_eq_some_iff (c : Cfg α) (dim : Option Nat) (X : List (List α)) (w : Nat) :
    validBatch c dim X = some w ↔
      (∀ d, dim = some d → w = d) ∧ 2 ≤ X.length ∧ (∀ r ∈ X, r.length = w) ∧
        (c.univariate = true → w = 1) := by
  cases X with
  | nil => simp [validBatch]
  | cons r rs =>
    simp only [validBatch, Option.ite_none_right_eq_some, Option.some.injEq, List.all_eq_true, beq_iff_eq]
    cases dim with
    | none =>
      refine ⟨fun ⟨hc, e⟩ => e ▸ ⟨nofun, hc⟩, fun ⟨_, hc⟩ => ?_⟩
      -- no width established yet: it is read off the first row
      obtain rfl : r.length = w := hc.2.1 r List.mem_cons_self
      exact ⟨hc, rfl⟩
    | some d =>
      exact ⟨fun ⟨hc, e⟩ => e ▸ ⟨fun _ h => Option.some.inj h, hc⟩,
        fun ⟨e, hc⟩ => by obtain rfl := e d rfl; exact ⟨hc, rfl⟩⟩

theorem validBatch_signif (c : Cfg α) (σ : α) (dim : Option Nat) (X : List (List α)) :
    validBatch { c with signif := σ } dim X = validBatch c dim X := by
  cases X <;> rfl

/-- What the counters, `_lambda`, `reference_n` and the bins satisfy in every state reachable from `init` by
    accepted calls.  The ε list has an invariant of its own where it is needed (`EpsInv`, Props/C07.lean), the
    established width and the keys of the public records likewise (`Good`, Props/C02HDM.lean). -/
structure Inv (s : State α) : Prop where
  noWarn : s.drift ≠ .warning
  sinceLe : s.since ≤ s.total
  /-- inside an epoch the batch index relative to the last drift / `set_reference` is the epoch counter -/
  epoch : s.drift = .none → s.total = s.lambda + s.since
  /-- a drift is flagged on a batch that is at least the second of its epoch; `_lambda` names it -/
  drifted : s.drift = .drift → s.lambda = s.total ∧ s.since ≥ 2 ∧ s.hasRef = true
  /-- `reference_n` and the number of bins follow the reference: `bins = floor(sqrt n)` -/
  refOk : s.drift = .none → s.hasRef = true →
    s.refN = s.reference.length ∧ s.bins = Nat.sqrt s.reference.length

theorem Inv.drift_none {s : State α} (hi : Inv s) (hd : s.drift ≠ .drift) : s.drift = .none :=
  Drift.eq_none_of_ne hi.noWarn hd

theorem inv_init [NatCast α] : Inv (init : State α) := by
  constructor <;> simp [init]

end noInstance

section anyCarrier
variable {α : Type} [Add α] [Sub α] [Mul α] [Div α] [Neg α] [LT α] [DecidableLT α]
  [LE α] [DecidableLE α] [NatCast α] [BEq α] [HasSqrt α] [HasLogExp α] [HasLog1p α] [HasTrunc α]

section oneBody
variable (c : Cfg α) (o : Oracle α) (s : State α) (dim : Nat) (X : List (List α))

/-- the drift test is due on this batch and fires: this batch's ε exceeds this batch's β (strictly) -/
def alarm : Bool :=
  testsDrift c (s.since + 1) && decide ((stepThr c o s dim X).beta < stepEps c s dim X)

theorem alarm_iff : alarm c o s dim X = true ↔
    testsDrift c (s.since + 1) = true ∧ (stepThr c o s dim X).beta < stepEps c s dim X := by
  simp [alarm]

/-- Distance, its record and the per-feature ε's are written on every batch; ε from the epoch's second
    batch on; the ε-list surgery, β and its record when the test is due; and `alarm` decides between
    "flag drift, the batch replaces the reference, `_lambda` names it" and "remember the distances,
    append the batch, re-derive `reference_n` and the bins". -/
theorem updateCore_eq :
    updateCore c o s dim X =
      { dim := some dim
        hasRef := s.hasRef
        total := s.total + 1
        since := s.since + 1
        drift := if alarm c o s dim X then .drift else s.drift
        reference := if alarm c o s dim X then X else s.reference ++ X
        refN := if alarm c o s dim X then s.refN else (s.reference ++ X).length
        bins := if alarm c o s dim X then s.bins else Nat.sqrt (s.reference ++ X).length
        eps := if testsDrift c (s.since + 1) then (stepThr c o s dim X).eps
               else if 2 ≤ s.since + 1 then stepEpsList c o s dim X else s.eps
        totalEps := if testsDrift c (s.since + 1) then (stepThr c o s dim X).totalEps else s.totalEps
        lambda := if alarm c o s dim X then s.total + 1 else s.lambda
        prevDist := if alarm c o s dim X then s.prevDist else stepDist c s dim X
        prevFeat := if alarm c o s dim X then s.prevFeat else stepFd c s dim X
        curDist := some (stepDist c s dim X)
        featEps := stepFeatEps c s dim X
        beta := if testsDrift c (s.since + 1) then some (stepThr c o s dim X).beta else s.beta
        featInfo := if alarm c o s dim X = true ∧ dim > 1 then
            some { epsilons := (stepFeatEps c s dim X).getD [], featDist := stepFd c s dim X,
                   argmax := argmaxFirst ((stepFeatEps c s dim X).getD []) }
          else s.featInfo
        distances := s.distances ++ [(s.total + 1, stepDist c s dim X)]
        epsValues := if 2 ≤ s.since + 1 then s.epsValues ++ [(s.total + 1, stepEps c s dim X)]
                     else s.epsValues
        thresholds := if testsDrift c (s.since + 1) then
            s.thresholds ++ [(s.total + 1, (stepThr c o s dim X).beta)] else s.thresholds } := by
  unfold updateCore appendRef alarm
  by_cases h2 : 2 ≤ s.since + 1
  · by_cases ht : testsDrift c (s.since + 1) = true
    · by_cases hb : (stepThr c o s dim X).beta < stepEps c s dim X
      · by_cases hd : dim > 1 <;> simp [h2, ht, hb, hd]
      · simp [h2, ht, hb]
    · simp [h2, ht]
  · have ht : testsDrift c (s.since + 1) = false := testsDrift_eq_false (Nat.not_le.1 h2)
    simp [h2, ht]

theorem updateCore_first {s : State α} (h0 : s.since = 0) :
    updateCore c o s dim X =
      { s with dim := some dim, total := s.total + 1, since := 1,
               curDist := some (stepDist c s dim X), featEps := stepFeatEps c s dim X,
               distances := s.distances ++ [(s.total + 1, stepDist c s dim X)],
               prevDist := stepDist c s dim X, prevFeat := stepFd c s dim X,
               reference := s.reference ++ X, refN := (s.reference ++ X).length,
               bins := Nat.sqrt (s.reference ++ X).length } := by
  unfold updateCore
  rw [h0]
  rfl

theorem updateCore_drift_eq :
    (updateCore c o s dim X).drift = if alarm c o s dim X then .drift else s.drift := by
  rw [updateCore_eq]

theorem alarm_of_drift (hs : s.drift ≠ .drift) (h : (updateCore c o s dim X).drift = .drift) :
    alarm c o s dim X = true :=
  ((Drift.ite_eq_drift _ _).1 ((updateCore_drift_eq c o s dim X).symm.trans h)).resolve_right hs

theorem not_alarm_of_not_drift (h : (updateCore c o s dim X).drift ≠ .drift) : alarm c o s dim X = false :=
  Bool.eq_false_iff.2 fun ha => h (by rw [updateCore_drift_eq, if_pos ha])
end oneBody

set_option linter.unusedSectionVars false in
/-- the drift test runs from the `detect_batch`-th batch of an epoch on (for `detect_batch = 1`
    the proxy batch is the epoch's first, so the first real batch is the second) -/
theorem testsDrift_iff (c : Cfg α) (since : Nat) (h : c.detectBatch = 1 ∨ c.detectBatch = 2 ∨ c.detectBatch = 3) :
    testsDrift c since = true ↔ since ≥ max 2 c.detectBatch := by
  rw [testsDrift_true_iff]
  omega

theorem updateCore_drift_iff (c : Cfg α) (o : Oracle α) (s : State α) (dim : Nat) (X : List (List α))
    (hs : s.drift = .none) :
    (updateCore c o s dim X).drift = .drift ↔
      (testsDrift c (s.since + 1) = true ∧ (stepThr c o s dim X).beta < stepEps c s dim X) := by
  rw [updateCore_drift_eq, ← alarm_iff, hs]
  cases alarm c o s dim X <;> simp

theorem updateCore_records (c : Cfg α) (o : Oracle α) (s : State α) (dim : Nat) (X : List (List α)) :
    let s' := updateCore c o s dim X
    s'.curDist = some (stepDist c s dim X) ∧
    s'.distances = s.distances ++ [(s.total + 1, stepDist c s dim X)] ∧
    s'.epsValues = (if s.since + 1 ≥ 2 then s.epsValues ++ [(s.total + 1, stepEps c s dim X)] else s.epsValues) ∧
    s'.thresholds = (if testsDrift c (s.since + 1) then s.thresholds ++ [(s.total + 1, (stepThr c o s dim X).beta)]
                     else s.thresholds) ∧
    s'.beta = (if testsDrift c (s.since + 1) then some (stepThr c o s dim X).beta else s.beta) ∧
    s'.featEps = stepFeatEps c s dim X := by
  rw [updateCore_eq]
  exact ⟨rfl, rfl, rfl, rfl, rfl, rfl⟩

theorem updateCore_counters (c : Cfg α) (o : Oracle α) (s : State α) (dim : Nat) (X : List (List α)) :
    (updateCore c o s dim X).total = s.total + 1 ∧ (updateCore c o s dim X).since = s.since + 1 := by
  rw [updateCore_eq]
  exact ⟨rfl, rfl⟩

theorem updateCore_due_records (c : Cfg α) (o : Oracle α) (s : State α) (dim : Nat) (X : List (List α))
    (ht : testsDrift c (s.since + 1) = true) :
    (updateCore c o s dim X).epsValues = s.epsValues ++ [(s.total + 1, stepEps c s dim X)] ∧
    (updateCore c o s dim X).thresholds = s.thresholds ++ [(s.total + 1, (stepThr c o s dim X).beta)] := by
  rw [updateCore_eq]
  exact ⟨if_pos (two_le_of_testsDrift ht), if_pos ht⟩

theorem updateCore_dim (c : Cfg α) (o : Oracle α) (s : State α) (dim : Nat) (X : List (List α)) :
    (updateCore c o s dim X).dim = some dim := by rw [updateCore_eq]

theorem updateCore_no_drift (c : Cfg α) (o : Oracle α) (s : State α) (dim : Nat) (X : List (List α))
    (h : (updateCore c o s dim X).drift ≠ .drift) :
    let s' := updateCore c o s dim X
    s'.reference = s.reference ++ X ∧ s'.refN = s.reference.length + X.length ∧
    s'.bins = Nat.sqrt (s.reference.length + X.length) ∧
    s'.prevDist = stepDist c s dim X ∧ s'.prevFeat = stepFd c s dim X ∧ s'.lambda = s.lambda := by
  have ha := not_alarm_of_not_drift c o s dim X h
  rw [updateCore_eq]
  simp [ha]

/-- `reference_n`, the bins and the remembered distances stay stale on a drift: the `reset` at the start
    of the next `update` recomputes them (`reset_restarts`) -/
theorem updateCore_on_drift (c : Cfg α) (o : Oracle α) (s : State α) (dim : Nat) (X : List (List α))
    (hs : s.drift = .none) (h : (updateCore c o s dim X).drift = .drift) :
    let s' := updateCore c o s dim X
    s'.reference = X ∧ s'.lambda = s.total + 1 ∧ s'.refN = s.refN ∧ s'.bins = s.bins ∧
    s'.prevDist = s.prevDist ∧ s'.prevFeat = s.prevFeat := by
  have ha := alarm_of_drift c o s dim X (by rw [hs]; nofun) h
  rw [updateCore_eq]
  simp [ha]

theorem updateCore_feature_info (c : Cfg α) (o : Oracle α) (s : State α) (dim : Nat) (X : List (List α))
    (hs : s.drift = .none) (hts : s.since ≤ s.total)
    (h : (updateCore c o s dim X).drift = .drift) (hd : dim > 1) :
    (updateCore c o s dim X).featInfo =
      some { epsilons := List.zipWith (· - ·) (stepFd c s dim X) s.prevFeat,
             featDist := stepFd c s dim X,
             argmax := argmaxFirst (List.zipWith (· - ·) (stepFd c s dim X) s.prevFeat) } := by
  have ha := alarm_of_drift c o s dim X (by rw [hs]; nofun) h
  have h2 := two_le_of_testsDrift ((alarm_iff ..).1 ha).1
  have hfe : stepFeatEps c s dim X = some (List.zipWith (· - ·) (stepFd c s dim X) s.prevFeat) :=
    if_pos (Nat.succ_le_succ (Nat.le_trans (Nat.le_of_succ_le_succ h2) hts))
  rw [updateCore_eq]
  simp [ha, hd, hfe]

/-- the first batch of an epoch (`batches_since_reset` 0 → 1) is only measured and appended: no ε, no β,
    no test, and the oracle values are not read -/
theorem updateCore_first_oracle_irrelevant (c : Cfg α) (o o' : Oracle α) (s : State α) (dim : Nat)
    (X : List (List α)) (h0 : s.since = 0) : updateCore c o s dim X = updateCore c o' s dim X := by
  rw [updateCore_first c o dim X h0, updateCore_first c o' dim X h0]

/-- with `detect_batch = 3` the body of `update` reads the t-critical value only: no bootstrap -/
theorem updateCore_db3 (c : Cfg α) (o o' : Oracle α) (s : State α) (dim : Nat) (X : List (List α))
    (h3 : c.detectBatch = 3) (ht : o.tcrit = o'.tcrit) : updateCore c o s dim X = updateCore c o' s dim X := by
  have e4 : stepEpsList c o s dim X = stepEpsList c o' s dim X := by
    unfold stepEpsList; simp [h3]
  have e5 : stepThr c o s dim X = stepThr c o' s dim X := by
    unfold stepThr; rw [e4, ht]
  rw [updateCore_eq, updateCore_eq, alarm, alarm, e4, e5]

/-- what `reset()` sets, on the reference `ref` -/
def restart (s : State α) (ref : List (List α)) : State α :=
  { s with since := 0, drift := .none, reference := ref, refN := ref.length, bins := Nat.sqrt ref.length,
           eps := [], totalEps := zero }

theorem reset_eq (c : Cfg α) (o : Oracle α) (s : State α) :
    reset c o s = if c.detectBatch = 1 then
        (validBatch c s.dim (s.reference.drop (s.reference.length / 2))).map fun d =>
          updateCore c o (restart s (s.reference.take (s.reference.length / 2))) d
            (s.reference.drop (s.reference.length / 2))
      else some (restart s s.reference) := by
  unfold reset
  dsimp only
  split
  · cases validBatch c s.dim (s.reference.drop (s.reference.length / 2)) <;> rfl
  · rfl

/-- **statistics restart** (`detect_batch ≠ 1`): `reset` keeps the reference (which `update`
    replaced by the drifting batch / `set_reference` by the new data), re-derives `reference_n`
    and the bins from it, empties the ε list and its running sum, and clears the counters. -/
theorem reset_restarts (c : Cfg α) (o : Oracle α) (s : State α) (h1 : c.detectBatch ≠ 1) :
    reset c o s = some { s with since := 0, drift := .none, refN := s.reference.length,
                                bins := Nat.sqrt s.reference.length, eps := [], totalEps := zero } := by
  rw [reset_eq, if_neg h1]
  rfl

/-- what `reset` leaves, for every `detect_batch` (`1`: the proxy batch has been counted and appended
    again, the reference is whole) -/
structure Restarted (c : Cfg α) (s s' : State α) : Prop where
  reference : s'.reference = s.reference
  refN : s'.refN = s.reference.length
  bins : s'.bins = Nat.sqrt s.reference.length
  drift : s'.drift = .none
  eps : s'.eps = []
  totalEps : s'.totalEps = zero
  lambda : s'.lambda = s.lambda
  hasRef : s'.hasRef = s.hasRef
  since : s'.since = if c.detectBatch = 1 then 1 else 0
  total : s'.total = s.total + if c.detectBatch = 1 then 1 else 0
  epsValues : s'.epsValues = s.epsValues
  thresholds : s'.thresholds = s.thresholds

theorem reset_spec {c : Cfg α} {o : Oracle α} {s s' : State α} (h : reset c o s = some s') :
    Restarted c s s' := by
  rw [reset_eq] at h
  split at h
  · rename_i h1
    obtain ⟨d, -, rfl⟩ := Option.map_eq_some_iff.1 h
    -- the proxy batch is the first of its epoch: it is appended to the first half
    rw [updateCore_first c o d _ (s := restart s _) rfl]
    constructor <;> simp [restart, h1]
  · rename_i h1
    cases h
    constructor <;> simp [restart, h1]

theorem reset_dim {c : Cfg α} {o : Oracle α} {s s' : State α} {d : Nat} (hd : s.dim = some d)
    (hr : reset c o s = some s') : s'.dim = some d := by
  rw [reset_eq] at hr
  split at hr
  · obtain ⟨d', hv, rfl⟩ := Option.map_eq_some_iff.1 hr
    rw [updateCore_dim, ((validBatch_eq_some_iff ..).1 hv).1 d hd]
  · cases hr; exact hd

/-- **statistics restart** (`detect_batch = 1`): the reference is split by position, the second
    half is measured against the first as a proxy batch (counted in both counters) and appended
    again: afterwards the reference is the whole data again, `batches_since_reset = 1`. -/
theorem reset_split (c : Cfg α) (o : Oracle α) (s s' : State α) (h1 : c.detectBatch = 1)
    (h : reset c o s = some s') :
    s'.reference = s.reference ∧ s'.refN = s.reference.length ∧ s'.bins = Nat.sqrt s.reference.length ∧
    s'.since = 1 ∧ s'.total = s.total + 1 ∧ s'.drift = .none ∧ s'.eps = [] ∧ s'.totalEps = zero ∧
    s'.lambda = s.lambda ∧ s'.hasRef = s.hasRef ∧
    (s.reference.length - s.reference.length / 2 ≥ 2) ∧
    s'.distances = s.distances ++ [(s.total + 1, s'.prevDist)] ∧ s'.epsValues = s.epsValues ∧
    s'.thresholds = s.thresholds := by
  have r := reset_spec h
  rw [reset_eq, if_pos h1] at h
  obtain ⟨d, hv, rfl⟩ := Option.map_eq_some_iff.1 h
  have hlen := ((validBatch_eq_some_iff ..).1 hv).2.1
  rw [List.length_drop] at hlen
  refine ⟨r.reference, r.refN, r.bins, by rw [r.since, if_pos h1], by rw [r.total, if_pos h1], r.drift,
    r.eps, r.totalEps, r.lambda, r.hasRef, hlen, ?_, r.epsValues, r.thresholds⟩
  -- the proxy batch is the first of its epoch: it is appended, so its distance is the remembered one
  rw [updateCore_first c o d _ (s := restart s _) rfl]
  rfl

/-- `reset` never reads the oracle record (its proxy batch is the first of the epoch) -/
theorem reset_oracle_irrelevant (c : Cfg α) (o o' : Oracle α) (s : State α) :
    reset c o s = reset c o' s := by
  rw [reset_eq, reset_eq]
  split
  · exact congrArg (Option.map · _) (funext fun d => updateCore_first_oracle_irrelevant c o o' _ d _ rfl)
  · rfl

theorem setReference_eq (c : Cfg α) (o : Oracle α) (s : State α) (X : List (List α)) :
    setReference c o s X = (validBatch c s.dim X).bind fun d =>
      reset c o { s with dim := some d, hasRef := true, reference := X, lambda := s.total } := by
  unfold setReference
  cases validBatch c s.dim X <;> rfl

theorem setReference_eq_some {c : Cfg α} {o : Oracle α} {s s' : State α} {X : List (List α)}
    (h : setReference c o s X = some s') :
    ∃ d, validBatch c s.dim X = some d ∧
      reset c o { s with dim := some d, hasRef := true, reference := X, lambda := s.total } = some s' := by
  rw [setReference_eq] at h
  exact Option.bind_eq_some_iff.1 h

theorem setReference_oracle_irrelevant (c : Cfg α) (o o' : Oracle α) (s : State α) (X : List (List α)) :
    setReference c o s X = setReference c o' s X := by
  simp only [setReference_eq, reset_oracle_irrelevant c o o']

/-- **`set_reference`** installs the data as reference and restarts everything an epoch owns
    (`_lambda` included — the fix f08e627), keeping the public records and `total_batches`. -/
theorem setReference_spec (c : Cfg α) (o : Oracle α) (s s' : State α) (X : List (List α))
    (h : setReference c o s X = some s') :
    s'.reference = X ∧ s'.refN = X.length ∧ s'.bins = Nat.sqrt X.length ∧ s'.drift = .none ∧
    s'.eps = [] ∧ s'.totalEps = zero ∧ s'.lambda = s.total ∧
    s'.since = (if c.detectBatch = 1 then 1 else 0) ∧
    s'.total = s.total + (if c.detectBatch = 1 then 1 else 0) ∧
    s'.epsValues = s.epsValues ∧ s'.thresholds = s.thresholds := by
  obtain ⟨d, -, h⟩ := setReference_eq_some h
  have r := reset_spec h
  exact ⟨r.reference, r.refN, r.bins, r.drift, r.eps, r.totalEps, r.lambda, r.since, r.total,
    r.epsValues, r.thresholds⟩

/-- the state in which the body of `update` runs (after the `reset` that follows a drift) -/
def preState (c : Cfg α) (o : Oracle α) (s : State α) : Option (State α) :=
  if s.drift = .drift then reset c o s else some s

theorem preState_cases {c : Cfg α} {o : Oracle α} {s s0 : State α} (h : preState c o s = some s0) :
    (s.drift = .drift ∧ reset c o s = some s0) ∨ (s.drift ≠ .drift ∧ s0 = s) := by
  unfold preState at h
  split at h
  · exact Or.inl ⟨‹_›, h⟩
  · exact Or.inr ⟨‹_›, (Option.some.inj h).symm⟩

theorem preState_of_drift {c : Cfg α} {o : Oracle α} {s : State α} (h : s.drift = .drift) :
    preState c o s = reset c o s := if_pos h

theorem preState_of_not_drift {c : Cfg α} {o : Oracle α} {s : State α} (h : s.drift ≠ .drift) :
    preState c o s = some s := if_neg h

theorem preState_drift_none {c : Cfg α} {o : Oracle α} {s s' : State α} (hw : s.drift ≠ .warning)
    (h : preState c o s = some s') : s'.drift = .none := by
  rcases preState_cases h with ⟨-, hr⟩ | ⟨hd, rfl⟩
  · exact (reset_spec hr).drift
  · exact Drift.eq_none_of_ne hw hd

theorem preState_oracle_irrelevant (c : Cfg α) (o o' : Oracle α) (s : State α) :
    preState c o s = preState c o' s := by
  unfold preState
  rw [reset_oracle_irrelevant c o o']

theorem update_eq_bind (c : Cfg α) (o : Oracle α) (s : State α) (X : List (List α)) :
    update c o s X = if s.hasRef then (preState c o s).bind fun s0 =>
      (validBatch c s0.dim X).map fun d => updateCore c o s0 d X else none := by
  unfold update preState
  split
  · cases (if s.drift = Drift.drift then reset c o s else some s) with
    | none => rfl
    | some s0 =>
      dsimp only [Option.bind_some]
      cases validBatch c s0.dim X <;> rfl
  · rfl

theorem update_eq_some {c : Cfg α} {o : Oracle α} {s s' : State α} {X : List (List α)}
    (h : update c o s X = some s') :
    s.hasRef = true ∧ ∃ s0 d, preState c o s = some s0 ∧ validBatch c s0.dim X = some d ∧
      s' = updateCore c o s0 d X := by
  rw [update_eq_bind] at h
  split at h
  · obtain ⟨s0, hp, h⟩ := Option.bind_eq_some_iff.1 h
    obtain ⟨d, hv, h⟩ := Option.map_eq_some_iff.1 h
    exact ⟨‹_›, s0, d, hp, hv, h.symm⟩
  · cases h

theorem update_quiet (c : Cfg α) (o : Oracle α) {s : State α} (X : List (List α)) (h : s.drift ≠ .drift) :
    update c o s X =
      if s.hasRef then (validBatch c s.dim X).map fun d => updateCore c o s d X else none := by
  rw [update_eq_bind, preState_of_not_drift h]
  rfl

theorem update_db3 (c : Cfg α) (o o' : Oracle α) (s : State α) (X : List (List α))
    (h3 : c.detectBatch = 3) (ht : o.tcrit = o'.tcrit) : update c o s X = update c o' s X := by
  simp only [update_eq_bind, preState_oracle_irrelevant c o o', updateCore_db3 c o o' _ _ X h3 ht]

/-- `reset` (called with `_lambda = total_batches`, as both call sites do) opens a fresh epoch -/
theorem Inv.of_reset {c : Cfg α} {o : Oracle α} {s s' : State α} (hl : s.lambda = s.total)
    (h : reset c o s = some s') : Inv s' := by
  have r := reset_spec h
  refine ⟨by simp [r.drift], ?_, fun _ => ?_, by simp [r.drift], fun _ _ => ⟨?_, ?_⟩⟩
  · rw [r.since, r.total]; split <;> omega
  · rw [r.since, r.total, r.lambda, hl]
  · rw [r.refN, r.reference]
  · rw [r.bins, r.reference]

theorem updateCore_inv (c : Cfg α) (o : Oracle α) (s : State α) (dim : Nat) (X : List (List α))
    (hi : Inv s) (hs : s.drift = .none) (hr : s.hasRef = true) : Inv (updateCore c o s dim X) := by
  have hle := Nat.succ_le_succ hi.sinceLe
  rw [updateCore_eq]
  cases ha : alarm c o s dim X with
  | false =>
    exact ⟨fun h => absurd (hs.symm.trans h) (by decide), hle, fun _ => congrArg (· + 1) (hi.epoch hs),
      fun h => absurd (hs.symm.trans h) (by decide), fun _ _ => ⟨rfl, rfl⟩⟩
  | true =>
    exact ⟨fun h => (nomatch h), hle, fun h => (nomatch h),
      fun _ => ⟨rfl, two_le_of_testsDrift ((alarm_iff ..).1 ha).1, hr⟩, fun h => (nomatch h)⟩

/-- `update_eq_some` from a reachable state: the body runs in an in-epoch state with the caller's reference -/
theorem update_eq_some_of_inv {c : Cfg α} {o : Oracle α} {s s' : State α} {X : List (List α)} (hi : Inv s)
    (h : update c o s X = some s') :
    ∃ s0 d, preState c o s = some s0 ∧ validBatch c s0.dim X = some d ∧ s' = updateCore c o s0 d X ∧
      Inv s0 ∧ s0.drift = .none ∧ s0.hasRef = true ∧ s0.reference = s.reference := by
  obtain ⟨hr, s0, d, hp, hv, rfl⟩ := update_eq_some h
  refine ⟨s0, d, hp, hv, rfl, ?_⟩
  rcases preState_cases hp with ⟨hd, hp⟩ | ⟨hd, rfl⟩
  · have r := reset_spec hp
    exact ⟨Inv.of_reset (hi.drifted hd).1 hp, r.drift, r.hasRef.trans hr, r.reference⟩
  · exact ⟨hi, hi.drift_none hd, hr, rfl⟩

theorem Inv.of_setReference {c : Cfg α} {o : Oracle α} {s s0 : State α} {X : List (List α)}
    (h : setReference c o s X = some s0) : Inv s0 :=
  have ⟨_, _, h⟩ := setReference_eq_some h
  Inv.of_reset rfl h

theorem step_inv (c : Cfg α) (s s' : State α) (op : Op α) (hi : Inv s) (h : step c s op = some s') :
    Inv s' := by
  cases op with
  | setRef X o => exact Inv.of_setReference h
  | batch X o =>
    obtain ⟨s0, d, -, -, rfl, hi0, hn, hr0, -⟩ := update_eq_some_of_inv hi h
    exact updateCore_inv c o s0 d X hi0 hn hr0

/-- **Drift exactly when ε exceeds β** — on the public records: after an accepted `update` from
    any reachable state, `drift_state == "drift"` iff the drift test is due on this batch of the
    epoch (`testsDrift`, see `testsDrift_iff`) and the ε and β recorded for this batch in
    `epsilon_values` / `thresholds` satisfy `ε > β` (strictly). -/
theorem update_drift_iff (c : Cfg α) (o : Oracle α) (s s' : State α) (X : List (List α))
    (hi : Inv s) (h : update c o s X = some s') :
    s'.drift = .drift ↔
      (testsDrift c s'.since = true ∧
        ∃ e b, s'.epsValues.getLast? = some (s'.total, e) ∧
               s'.thresholds.getLast? = some (s'.total, b) ∧ b < e) := by
  obtain ⟨s0, d, -, -, rfl, -, hn, -, -⟩ := update_eq_some_of_inv hi h
  rw [updateCore_drift_iff c o s0 d X hn, (updateCore_counters c o s0 d X).1, (updateCore_counters c o s0 d X).2]
  refine and_congr_right fun ht => ?_
  obtain ⟨he, hb⟩ := updateCore_due_records c o s0 d X ht
  rw [he, hb, List.getLast?_concat, List.getLast?_concat]
  exact ⟨fun hlt => ⟨_, _, rfl, rfl, hlt⟩, fun ⟨_, _, he', hb', hlt⟩ => by cases he'; cases hb'; exact hlt⟩

theorem update_no_early_drift (c : Cfg α) (o : Oracle α) (s s' : State α) (X : List (List α))
    (hi : Inv s) (h : update c o s X = some s') (ht : testsDrift c s'.since = false) :
    s'.drift = .none := by
  apply (step_inv c s s' (.batch X o) hi h).drift_none
  intro hd
  have := ((update_drift_iff c o s s' X hi h).1 hd).1
  rw [ht] at this
  cases this

/-- **Reference update** on the public call: without drift the batch is appended to the reference
    (after a drift: to the batch that replaced it) and `reference_n`, bins follow; with drift the
    batch becomes the reference. -/
theorem update_reference (c : Cfg α) (o : Oracle α) (s s' : State α) (X : List (List α))
    (hi : Inv s) (h : update c o s X = some s') :
    (s'.drift ≠ .drift → s'.reference = s.reference ++ X ∧
        s'.refN = s.reference.length + X.length ∧ s'.bins = Nat.sqrt (s.reference.length + X.length)) ∧
    (s'.drift = .drift → s'.reference = X ∧ s'.lambda = s'.total) := by
  obtain ⟨s0, d, -, -, rfl, -, hn, -, href⟩ := update_eq_some_of_inv hi h
  constructor
  · intro hnd
    have := updateCore_no_drift c o s0 d X hnd
    rw [href] at this
    exact ⟨this.1, this.2.1, this.2.2.1⟩
  · intro hd
    have := updateCore_on_drift c o s0 d X hn hd
    exact ⟨this.1, this.2.1.trans (updateCore_counters c o s0 d X).1.symm⟩

theorem update_total_since {c : Cfg α} {o : Oracle α} {s s' : State α} {X : List (List α)}
    (h : update c o s X = some s') :
    s'.total = s.total + 1 + (if s.drift = .drift ∧ c.detectBatch = 1 then 1 else 0) ∧
    s'.since = (if s.drift = .drift then (if c.detectBatch = 1 then 2 else 1) else s.since + 1) := by
  obtain ⟨-, s0, d, hp, -, rfl⟩ := update_eq_some h
  rw [(updateCore_counters c o s0 d X).1, (updateCore_counters c o s0 d X).2]
  rcases preState_cases hp with ⟨hd, hp⟩ | ⟨hd, rfl⟩
  · have r := reset_spec hp
    rw [r.total, r.since]
    by_cases h1 : c.detectBatch = 1 <;> simp [hd, h1]
  · simp [hd]

/-- **Counters** of the public call: one per `update`, plus one proxy batch when a new epoch is
    opened with `detect_batch = 1`. -/
theorem update_counters (c : Cfg α) (o : Oracle α) (s s' : State α) (X : List (List α))
    (hi : Inv s) (h : update c o s X = some s') :
    s'.total = s.total + 1 + (if s.drift = .drift ∧ c.detectBatch = 1 then 1 else 0) ∧
    s'.since = (if s.drift = .drift then (if c.detectBatch = 1 then 2 else 1) else s.since + 1) :=
  update_total_since h

theorem run_cons (c : Cfg α) (s : State α) (op : Op α) (ops : List (Op α)) :
    run c s (op :: ops) = (step c s op).bind (fun s' => run c s' ops) := by
  rw [run]; cases step c s op <;> rfl

theorem run_append (c : Cfg α) (s : State α) (ops ops' : List (Op α)) :
    run c s (ops ++ ops') = (run c s ops).bind (fun s' => run c s' ops') := by
  induction ops generalizing s with
  | nil => rfl
  | cons op ops ih =>
    simp only [List.cons_append, run]
    cases step c s op with
    | none => rfl
    | some s' => exact ih s'

theorem run_snoc {c : Cfg α} {s s1 : State α} {ops : List (Op α)} {op : Op α}
    (h : run c s (ops ++ [op]) = some s1) : ∃ s', run c s ops = some s' ∧ step c s' op = some s1 := by
  rw [run_append] at h
  obtain ⟨s', hs', h⟩ := Option.bind_eq_some_iff.1 h
  rw [run_cons] at h
  obtain ⟨s2, hs2, h⟩ := Option.bind_eq_some_iff.1 h
  cases h
  exact ⟨s', hs', hs2⟩

theorem run_induction {c : Cfg α} (P : State α → Prop)
    (hstep : ∀ s s' op, P s → step c s op = some s' → P s') :
    ∀ (ops : List (Op α)) (s s' : State α), P s → run c s ops = some s' → P s'
  | [], s, s', hs, h => by cases h; exact hs
  | op :: ops, s, s', hs, h => by
    rw [run_cons] at h
    obtain ⟨s1, hs1, h⟩ := Option.bind_eq_some_iff.1 h
    exact run_induction P hstep ops s1 s' (hstep s s1 op hs hs1) h

theorem run_inv (c : Cfg α) (ops : List (Op α)) (s s' : State α) (hi : Inv s)
    (h : run c s ops = some s') : Inv s' :=
  run_induction Inv (step_inv c) ops s s' hi h

end anyCarrier
end MV.HDM
