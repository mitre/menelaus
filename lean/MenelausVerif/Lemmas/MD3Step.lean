/-
  MD3, one call: what an accepted update does to every field (`updateCore_fields`), what an accepted
  label does (`labelCore_fields`: store the bit, or decide), and `step_cases`: a call is one of these two
  or is refused with the state untouched.  Its disjuncts are taken apart by position:
  `⟨sig, hop, hw, hcounts, e⟩ | ⟨cols, b, nr, hop, hw, hbit, e⟩ | ⟨r, e, hcounts, hbit⟩`, with `hop` the
  shape of the call, `hw` the value of `waiting`, `hcounts` / `hbit` the values of `countsAsUpdate` /
  `labelBit` (of a refused call the latter is known only while waiting), and `e` the equation for `step`.
  `step_cases` does not say which guard refused; that is `update_outcome` / `label_outcome`.

  The statements are phrased in definitions of this module, not of the model: `countsAsUpdate` (is the
  call an accepted `update`: the calls `step_total` / `step_since` / `acceptedUpdates` count), `labelBit` /
  `labelBits` (the correctness bits of the well-formed label calls), `mdBase` / `mdNext` (the margin
  density an accepted update starts from and arrives at).

  Histories: `run_cons` under `induction ops generalizing s`, `run_snoc` for the last call.  `Inv` is what
  holds in every state reachable from `init` (`inv_init`, `inv_step`, `inv_run`): the sample store is empty
  outside an oracle round and shorter than N inside, `"warning"` is shown only while waiting with an empty
  store and `"drift"` only while not waiting, `lam = forgetting ref.len`, `since ≤ total`.  Only
  `updateCore_eq` assumes it; every other equation holds from any state.  No arithmetic law is used, so
  everything holds for every carrier.
-/
import MenelausVerif.Model.MD3
namespace MV.MD3
open MV

variable {α : Type}

/-- the correctness bit of a call that passes the shape guards of `give_oracle_label`
    (one row, same number and set of column names); `none` for every other call -/
def labelBit (c : Cfg α) : Op α → Option Bool
  | .label rows cols correct _ => if rows = 1 ∧ sameColumns cols c.refCols = true then some correct else none
  | .update _ _ => none

def labelBits (c : Cfg α) (ops : List (Op α)) : List Bool := ops.filterMap (labelBit c)

/-- is this call an accepted `update`? -/
def countsAsUpdate (s : State α) : Op α → Bool
  | .update rows _ => !s.waiting && rows == 1
  | .label .. => false

section
variable [Add α] [Sub α] [Mul α] [Neg α] [LT α] [DecidableLT α] [NatCast α]

/-- the margin density an accepted update starts from: the reference's after a reported drift
    (the update resets first), the current one otherwise -/
def mdBase (s : State α) : α := if s.drift = .drift then s.ref.md else s.md

def mdNext (s : State α) (sig : Bool) : α := mdRec s.lam (mdBase s) sig

theorem updateCore_fields (c : Cfg α) (s : State α) (sig : Bool) :
    updateCore c s sig =
      { s with total := s.total + 1,
               since := (if s.drift = .drift then 0 else s.since) + 1,
               md := mdNext s sig,
               drift := if warnTest c s.ref (mdNext s sig) = true then .warning
                        else if s.drift = .drift then .none else s.drift,
               waiting := warnTest c s.ref (mdNext s sig) || s.waiting } := by
  unfold updateCore prep mdNext mdBase
  by_cases hd : s.drift = .drift
  · simp only [hd, if_true, reset]
    split <;> simp_all
  · simp only [hd, if_false]
    split <;> simp_all

theorem updateCore_drift_ne (c : Cfg α) (s : State α) (sig : Bool) : (updateCore c s sig).drift ≠ .drift := by
  rw [updateCore_fields]
  dsimp only
  split
  · simp
  · split <;> simp [*]

end

section
variable [Sub α] [Mul α] [Div α] [LT α] [DecidableLT α] [NatCast α]

theorem labelCore_fields (c : Cfg α) (s : State α) (b : Bool) (nr : Ref α) :
    labelCore c s b nr =
      if s.labels.length + 1 = s.oracleReq then
        { s with drift := if confirmTest c s.ref (b :: s.labels) = true then .drift else .none,
                 waiting := false, labels := [], ref := nr, lam := forgetting nr.len, md := nr.md }
      else { s with drift := .none, labels := b :: s.labels } := by
  simp only [labelCore, List.length_cons, decide_, setReference]
  split
  · split <;> rfl
  · rfl

end

section
variable [Div α] [NatCast α]

/-- what holds in every state reachable from `init` -/
structure Inv (s : State α) : Prop where
  /-- outside an oracle round no labelled sample is kept -/
  idle_no_labels : s.waiting = false → s.labels = []
  /-- fewer than N samples are ever held: the N-th one triggers the decision and empties the store -/
  labels_lt : s.labels.length < s.oracleReq
  /-- `"warning"` is shown from the update that raised it until the first accepted label -/
  warning_imp : s.drift = .warning → s.waiting = true ∧ s.labels = []
  /-- `"drift"` is only shown outside an oracle round -/
  drift_imp : s.drift = .drift → s.waiting = false
  /-- the forgetting factor is (N-1)/N for the current reference's N -/
  lam_eq : s.lam = forgetting s.ref.len
  since_le : s.since ≤ s.total

/-- `oracle_data_length_required = 0` is accepted by `MD3.__init__`, and the detector then waits for
    ever after its first warning (the store never has length 0 after a sample); `h` excludes it -/
theorem inv_init (c : Cfg α) (r : Ref α) (h : 0 < c.oracleLen.getD r.len) : Inv (init c r) :=
  { idle_no_labels := fun _ => rfl, labels_lt := h, warning_imp := fun h => (nomatch h),
    drift_imp := fun _ => rfl, lam_eq := rfl, since_le := Nat.le_refl _ }

end

variable [Add α] [Sub α] [Mul α] [Div α] [Neg α] [LT α] [DecidableLT α] [NatCast α]

theorem step_update (c : Cfg α) (s : State α) (sig : Bool) (hw : s.waiting = false) :
    step c s (.update 1 sig) = (updateCore c s sig, .accepted) := by
  simp [step, update, hw]

theorem step_cases (c : Cfg α) (s : State α) (op : Op α) :
    (∃ sig, op = .update 1 sig ∧ s.waiting = false ∧ countsAsUpdate s op = true ∧
        step c s op = (updateCore c s sig, .accepted)) ∨
    (∃ cols b nr, op = .label 1 cols b nr ∧ s.waiting = true ∧ labelBit c op = some b ∧
        step c s op = (labelCore c s b nr, .accepted)) ∨
    (∃ r, step c s op = (s, .refused r) ∧ countsAsUpdate s op = false ∧
        (s.waiting = true → labelBit c op = none)) := by
  cases op with
  | update rows sig =>
    by_cases hw : s.waiting = true
    · exact .inr (.inr ⟨.updateWaiting, by simp [step, update, hw], by simp [countsAsUpdate, hw], fun _ => rfl⟩)
    · rw [Bool.not_eq_true] at hw
      by_cases hr : rows = 1
      · subst hr
        exact .inl ⟨sig, rfl, hw, by simp [countsAsUpdate, hw], step_update c s sig hw⟩
      · exact .inr (.inr ⟨.updateRows, by simp [step, update, hw, hr], by simp [countsAsUpdate, hr], fun _ => rfl⟩)
  | label rows cols b nr =>
    by_cases hw : s.waiting = true
    · by_cases hr : rows = 1
      · by_cases hc : sameColumns cols c.refCols = true
        · subst hr
          exact .inr (.inl ⟨cols, b, nr, rfl, hw, by simp [labelBit, hc], by simp [step, label, hw, hc]⟩)
        · exact .inr (.inr ⟨.labelCols, by simp [step, label, hw, hr, hc], rfl, fun _ => by simp [labelBit, hc]⟩)
      · exact .inr (.inr ⟨.labelRows, by simp [step, label, hw, hr], rfl, fun _ => by simp [labelBit, hr]⟩)
    · exact .inr (.inr ⟨.labelNotWaiting, by simp [step, label, hw], rfl, fun h => absurd h hw⟩)

theorem step_idle (c : Cfg α) (s : State α) (op : Op α) (hw : s.waiting = false)
    (hc : countsAsUpdate s op = false) : (step c s op).1 = s := by
  rcases step_cases c s op with ⟨_, _, _, h, _⟩ | ⟨_, _, _, _, h, _⟩ | ⟨_, e, _⟩
  · rw [hc] at h; cases h
  · rw [hw] at h; cases h
  · rw [e]

/-- **refusals**: a refused call (whatever the reason) leaves the whole state as it was -/
theorem refused_unchanged (c : Cfg α) (s : State α) (op : Op α) (r : Refusal)
    (h : (step c s op).2 = .refused r) : (step c s op).1 = s := by
  rcases step_cases c s op with ⟨_, _, _, _, e⟩ | ⟨_, _, _, _, _, _, e⟩ | ⟨_, e, _⟩ <;> rw [e] at h ⊢
  · cases h
  · cases h

theorem step_ref (c : Cfg α) (s : State α) (op : Op α) :
    ((step c s op).1.ref = s.ref ∧ (step c s op).1.lam = s.lam) ∨
    ∃ rows cols b nr, op = .label rows cols b nr ∧ (step c s op).1.ref = nr ∧
      (step c s op).1.lam = forgetting nr.len ∧ (step c s op).1.md = nr.md := by
  rcases step_cases c s op with ⟨_, _, _, _, e⟩ | ⟨cols, b, nr, rfl, _, _, e⟩ | ⟨_, e, _⟩ <;> rw [e]
  · rw [updateCore_fields]; exact .inl ⟨rfl, rfl⟩
  · rw [labelCore_fields]
    split
    · exact .inr ⟨1, cols, b, nr, rfl, rfl, rfl, rfl⟩
    · exact .inl ⟨rfl, rfl⟩
  · exact .inl ⟨rfl, rfl⟩

set_option linter.unusedSectionVars false in
/-- which `update` calls are refused, and by which guard (source order) -/
theorem update_outcome (c : Cfg α) (s : State α) (rows : Nat) (sig : Bool) :
    (update c s rows sig).2 =
      if s.waiting = true then .refused .updateWaiting
      else if rows ≠ 1 then .refused .updateRows else .accepted := by
  grind [update]

set_option linter.unusedSectionVars false in
/-- which `give_oracle_label` calls are refused, and by which guard (source order) -/
theorem label_outcome (c : Cfg α) (s : State α) (rows : Nat) (cols : List Nat) (b : Bool) (nr : Ref α) :
    (label c s rows cols b nr).2 =
      if s.waiting = false then .refused .labelNotWaiting
      else if rows ≠ 1 then .refused .labelRows
      else if sameColumns cols c.refCols = false then .refused .labelCols else .accepted := by
  grind [label]

/-- `total_updates` counts the accepted `update` calls; nothing else moves it -/
theorem step_total (c : Cfg α) (s : State α) (op : Op α) :
    (step c s op).1.total = s.total + (if countsAsUpdate s op then 1 else 0) := by
  rcases step_cases c s op with ⟨sig, _, _, hu, e⟩ | ⟨_, b, nr, rfl, _, _, e⟩ | ⟨_, e, hu, _⟩ <;> rw [e]
  · rw [hu, updateCore_fields]; rfl
  · rw [labelCore_fields]; split <;> rfl
  · rw [hu]; rfl

/-- `updates_since_reset`: +1 per accepted update, restarted (to 1) only by the accepted update
that follows a reported drift — the one place `reset()` is called from; labels never touch it -/
theorem step_since (c : Cfg α) (s : State α) (op : Op α) :
    (step c s op).1.since =
      if countsAsUpdate s op then (if s.drift = .drift then 0 else s.since) + 1 else s.since := by
  rcases step_cases c s op with ⟨sig, _, _, hu, e⟩ | ⟨_, b, nr, rfl, _, _, e⟩ | ⟨_, e, hu, _⟩ <;> rw [e]
  · rw [hu, updateCore_fields]; rfl
  · rw [labelCore_fields]; split <;> rfl
  · rw [hu]; rfl

theorem run_cons (c : Cfg α) (s : State α) (op : Op α) (ops : List (Op α)) :
    run c s (op :: ops) = run c (step c s op).1 ops := rfl

theorem run_snoc (c : Cfg α) (s : State α) (ops : List (Op α)) (op : Op α) :
    run c s (ops ++ [op]) = (step c (run c s ops) op).1 := by
  simp [run, List.foldl_append]

def acceptedUpdates (c : Cfg α) (s : State α) : List (Op α) → Nat
  | [] => 0
  | op :: ops => (if countsAsUpdate s op then 1 else 0) + acceptedUpdates c (step c s op).1 ops

theorem run_total (c : Cfg α) (s : State α) (ops : List (Op α)) :
    (run c s ops).total = s.total + acceptedUpdates c s ops := by
  induction ops generalizing s with
  | nil => rfl
  | cons op ops ih => rw [run_cons, ih, step_total, acceptedUpdates, Nat.add_assoc]

/-- **the accepted update, field by field** (reachable, non-waiting state): there `"warning"` is not
shown, so warning and waiting are exactly the warning test on the new margin density, otherwise no
state is shown.  The equation that holds in every state is `updateCore_fields`. -/
theorem updateCore_eq (c : Cfg α) (s : State α) (sig : Bool) (hi : Inv s) (hw : s.waiting = false) :
    updateCore c s sig =
      { s with total := s.total + 1,
               since := (if s.drift = .drift then 0 else s.since) + 1,
               md := mdNext s sig,
               drift := if warnTest c s.ref (mdNext s sig) = true then .warning else .none,
               waiting := warnTest c s.ref (mdNext s sig) } := by
  have hd : (if s.drift = .drift then Drift.none else s.drift) = .none := by
    cases hd : s.drift
    · rfl
    · exact absurd (hi.warning_imp hd).1 (by simp [hw])
    · rfl
  rw [updateCore_fields, hd, hw, Bool.or_false]

theorem inv_step (c : Cfg α) (s : State α) (op : Op α) (hi : Inv s) : Inv (step c s op).1 := by
  rcases step_cases c s op with ⟨sig, _, hw, _, e⟩ | ⟨_, b, nr, _, hw, _, e⟩ | ⟨_, e, _⟩ <;> rw [e]
  · rw [updateCore_eq c s sig hi hw]
    have hl := hi.idle_no_labels hw
    have hs : (if s.drift = .drift then 0 else s.since) + 1 ≤ s.total + 1 :=
      Nat.succ_le_succ (by split; exact Nat.zero_le _; exact hi.since_le)
    cases warnTest c s.ref (mdNext s sig)
    · exact { hi with idle_no_labels := fun _ => hl, warning_imp := fun h => (nomatch h),
                      drift_imp := fun h => (nomatch h), since_le := hs }
    · exact { hi with idle_no_labels := fun _ => hl, warning_imp := fun _ => ⟨rfl, hl⟩,
                      drift_imp := fun h => (nomatch h), since_le := hs }
  · rw [labelCore_fields]
    split
    · refine { hi with idle_no_labels := fun _ => rfl, labels_lt := Nat.lt_of_le_of_lt (Nat.zero_le _) hi.labels_lt,
                       warning_imp := fun h => ?_, drift_imp := fun _ => rfl, lam_eq := rfl }
      revert h; dsimp only; split <;> simp
    · next hn =>
      exact { hi with idle_no_labels := fun h => (nomatch hw.symm.trans h),
                      labels_lt := Nat.lt_of_le_of_ne hi.labels_lt hn,
                      warning_imp := fun h => (nomatch h), drift_imp := fun h => (nomatch h) }
  · exact hi

theorem inv_run (c : Cfg α) (s : State α) (ops : List (Op α)) (hi : Inv s) : Inv (run c s ops) := by
  induction ops generalizing s with
  | nil => exact hi
  | cons op ops ih => exact ih _ (inv_step c s op hi)

theorem inv_reachable (c : Cfg α) (r : Ref α) (h : 0 < c.oracleLen.getD r.len) (ops : List (Op α)) :
    Inv (run c (init c r) ops) := inv_run c _ ops (inv_init c r h)

end MV.MD3
