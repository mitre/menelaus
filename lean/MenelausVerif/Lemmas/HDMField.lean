/-
  What the constants of Model/HDM.lean (`zero`, `one`, `two`, `half`, casts of numerals) and its running sum
  `sumF` are at any field.
-/
import MenelausVerif.Model.HDM
import MenelausVerif.Lemmas.Carrier
namespace MV.HDM
open MV

section field
variable {K : Type} [Field K]

@[simp] theorem zero_eq : (zero : K) = 0 := Nat.cast_zero
@[simp] theorem one_eq : (one : K) = 1 := Nat.cast_one
@[simp] theorem two_eq : (two : K) = 2 := Nat.cast_ofNat
@[simp] theorem half_eq : (half : K) = 1 / 2 := by rw [half, one_eq, two_eq]

theorem sumF_eq (l : List K) : sumF l = l.sum := by
  rw [sumF, zero_eq, List.sum_eq_foldl]

end field

end MV.HDM
