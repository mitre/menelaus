/-
  The kdq-tree divergence over ℝ, `log` being `Real.log` (global instance `HasLogExp ℝ`): Gibbs' inequality for lists,
  whence `entropy` (scipy's normalising `entropy(pk, qk)`) is non-negative, zero on equal arguments, and
  `Σ p log (p / q)` on vectors that sum to one.
-/
import MenelausVerif.Lemmas.KdqArith
import Mathlib.Analysis.SpecialFunctions.Log.Basic
namespace MV.Kdq

section real

/-- global, because the divergence theorems of `Props/C08Real.lean` are stated with it; `Lemmas/HDMReal.lean`
    has the same instance `scoped` -/
noncomputable instance instLogExpReal : HasLogExp ℝ := ⟨Real.log, Real.exp⟩

theorem relEntr_pos_eq {x y : ℝ} (hx : 0 < x) (hy : 0 < y) : relEntr x y = x * Real.log (x / y) := by
  have hx' : ((0 : Nat) : ℝ) < x := by simpa using hx
  have hy' : ((0 : Nat) : ℝ) < y := by simpa using hy
  simp only [relEntr, hx', hy', and_self, if_true]
  rfl

theorem relEntr_ge {x y : ℝ} (hx : 0 < x) (hy : 0 < y) : x - y ≤ relEntr x y := by
  -- `log (y / x) ≤ y / x - 1`, times `x`
  have h := mul_le_mul_of_nonneg_left (Real.log_le_sub_one_of_pos (div_pos hy hx)) hx.le
  rw [mul_sub, mul_div_cancel₀ _ hx.ne', mul_one, ← inv_div x y, Real.log_inv, mul_neg] at h
  rw [relEntr_pos_eq hx hy]
  exact (neg_sub y x).symm.trans_le (neg_le.mp h)

theorem relEntr_self {x : ℝ} (hx : 0 < x) : relEntr x x = 0 := by
  rw [relEntr_pos_eq hx hx, div_self hx.ne', Real.log_one, mul_zero]

theorem gibbs_list : ∀ (ps qs : List ℝ), ps.length = qs.length → (∀ p ∈ ps, 0 < p) → (∀ q ∈ qs, 0 < q) →
    ps.sum - qs.sum ≤ (List.zipWith relEntr ps qs).sum := by
  intro ps
  induction ps with
  | nil => intro qs h _ _; cases qs with
    | nil => simp
    | cons q qs => simp at h
  | cons p ps ih =>
    intro qs h hp hq
    cases qs with
    | nil => simp at h
    | cons q qs =>
      rw [List.zipWith_cons_cons, List.sum_cons, List.sum_cons, List.sum_cons, add_sub_add_comm]
      exact add_le_add (relEntr_ge (hp p List.mem_cons_self) (hq q List.mem_cons_self))
        (ih qs (Nat.succ.inj h) (fun x hx => hp x (List.mem_cons_of_mem _ hx))
          (fun x hx => hq x (List.mem_cons_of_mem _ hx)))

theorem zipWith_relEntr_eq (ps qs : List ℝ) (hp : ∀ p ∈ ps, 0 < p) (hq : ∀ q ∈ qs, 0 < q) :
    List.zipWith relEntr ps qs = List.zipWith (fun p q => p * Real.log (p / q)) ps qs := by
  rw [← List.map_uncurry_zip_eq_zipWith, ← List.map_uncurry_zip_eq_zipWith]
  exact List.map_congr_left fun pq h =>
    relEntr_pos_eq (hp _ (List.of_mem_zip h).1) (hq _ (List.of_mem_zip h).2)

theorem pos_normalised {pk : List ℝ} (hp : ∀ p ∈ pk, 0 < p) : ∀ x ∈ pk.map (· / pk.sum), 0 < x := by
  intro x hx
  obtain ⟨y, hy, rfl⟩ := List.mem_map.mp hx
  exact div_pos (hp y hy) (List.sum_pos _ hp (List.ne_nil_of_mem hy))

theorem entropy_nonneg {pk qk : List ℝ} (hl : pk.length = qk.length) (hp : ∀ p ∈ pk, 0 < p) (hq : ∀ q ∈ qk, 0 < q) :
    0 ≤ entropy pk qk := by
  by_cases hne : pk = []
  · subst hne; simp [entropy, sumL]
  have hne' : qk ≠ [] := fun e => hne (List.eq_nil_of_length_eq_zero (hl.trans (e ▸ rfl)))
  have sp := List.sum_pos _ hp hne
  have sq := List.sum_pos _ hq hne'
  simp only [entropy, sumL_eq_sum]
  -- Gibbs for the normalised vectors, both of which sum to one
  have h := gibbs_list (pk.map (· / pk.sum)) (qk.map (· / qk.sum)) (by simp [hl]) (pos_normalised hp)
    (pos_normalised hq)
  rwa [sum_map_div, sum_map_div, div_self sp.ne', div_self sq.ne', sub_self] at h

theorem entropy_self {pk : List ℝ} (hp : ∀ p ∈ pk, 0 < p) : entropy pk pk = 0 := by
  simp only [entropy, sumL_eq_sum, List.zipWith_self]
  refine List.sum_eq_zero fun x hx => ?_
  obtain ⟨p, hp', rfl⟩ := List.mem_map.mp hx
  exact relEntr_self (pos_normalised hp p hp')

/-- normalisation inside `entropy` is the identity on vectors that sum to one: the value is the
    textbook sum `Σ p log (p / q)` -/
theorem entropy_eq_sum {pk qk : List ℝ} (h1 : sumL pk = 1) (h2 : sumL qk = 1) :
    entropy pk qk = (List.zipWith relEntr pk qk).sum := by
  simp only [entropy, h1, h2, div_one, List.map_id', sumL_eq_sum]

end real

end MV.Kdq
