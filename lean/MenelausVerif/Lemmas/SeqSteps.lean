/-
  What one update of CUSUM and of Page-Hinkley does, and what a run of updates does to the counters.
  CUSUM's `update` is `core ∘ prep` (`prep`: the re-estimation and reset after an alarm; `core`: `base`,
  then a case distinction that may raise, then `finish`, the alarm check): field equations of the pieces,
  the ways `core` can end (`core_cases`), what it does whatever the outcome and what it does not read
  (`core_frame`).  `step_counters` (total, since, stream) holds of an update that raises too; only
  `step_decision` asks for `.ok`.  A run is `none` once an update has raised (`runFrom_cons`);
  `run c xs` is by definition `runFrom c (init c) xs`; `runFrom_induction` carries a predicate along a
  run that ended in `some s'`, and `runFrom_counters` gives the total and the stream of such a run.
  Page-Hinkley's is `core ∘ pre`: the statistics (`core_eq`), counters, decision, frame.  It never
  raises: `runFrom` is the plain `List.foldl` of `step`, `run c xs` is `runFrom c init xs` and a cons
  unfolds, both by `rfl`, so a fact about a run is an `induction xs generalizing s` (`runFrom_total`)
  or, from the end of the history, `run_snoc`.
  No Mathlib, no arithmetic law: valid for every carrier.
-/
import MenelausVerif.Model.Cusum
import MenelausVerif.Model.PageHinkley
import MenelausVerif.Lemmas.Drift

namespace MV.Cusum

section
variable {α : Type}

theorem estNow_iff (c : Cfg α) (s : State α) :
    estNow c s = true ↔ s.target = none ∧ s.since + 1 = c.burnIn := by
  simp [estNow]

theorem early_iff (c : Cfg α) (s : State α) :
    early c s = true ↔ s.target = none ∧ s.since + 1 < c.burnIn := by
  simp [early]

/-- the re-estimation window lies inside an epoch that is past its burn-in.  `burn_in = 0` is excluded
    here and in everything that follows from it: `_stream[-0:]` is the whole stream, so that
    re-estimation would read every observation ever seen. -/
theorem take_window {b n : Nat} (hb : 1 ≤ b) (hn : b < n) (l l' : List α)
    (h : l.take n = l'.take n) : window b l = window b l' := by
  have e (l : List α) : l.take b = (l.take n).take b := by
    rw [List.take_take, Nat.min_eq_left (Nat.le_of_lt hn)]
  unfold window
  rw [if_neg (Nat.ne_of_gt hb), if_neg (Nat.ne_of_gt hb), e l, e l', h]

end

section finish
variable {α : Type} [LT α] [DecidableLT α]

/-- "check alarm if past burn in": the only place where the state becomes `drift`, and the only
    field the check touches -/
theorem finish_eq (c : Cfg α) (s : State α) :
    finish c s =
      { s with drift := if s.since > c.burnIn ∧ alarm c s.sh s.sl = true then .drift else s.drift } := by
  unfold finish; split <;> rfl

theorem finish_drift_iff (c : Cfg α) (s : State α) :
    (finish c s).drift = .drift ↔ (s.since > c.burnIn ∧ alarm c s.sh s.sl = true) ∨ s.drift = .drift := by
  rw [finish_eq]
  exact Drift.ite_eq_drift _ _

end finish

section prep
variable {α : Type} [Add α] [Sub α] [Mul α] [Div α] [NatCast α] [HasSqrt α]

theorem prep_of_drift (c : Cfg α) (s : State α) (h : s.drift = .drift) :
    prep c s = { s with target := some (mean (window c.burnIn s.hist)),
                        sd := some (std (window c.burnIn s.hist)),
                        since := 0, drift := .none, sh := zero, sl := zero } := by
  unfold prep; rw [if_pos h]

theorem prep_of_not_drift (c : Cfg α) (s : State α) (h : s.drift ≠ .drift) : prep c s = s := by
  unfold prep; rw [if_neg h]

theorem prep_total (c : Cfg α) (s : State α) : (prep c s).total = s.total := by
  unfold prep; split <;> rfl
theorem prep_hist (c : Cfg α) (s : State α) : (prep c s).hist = s.hist := by
  unfold prep; split <;> rfl
theorem prep_since (c : Cfg α) (s : State α) :
    (prep c s).since = if s.drift = .drift then 0 else s.since := by
  unfold prep; split <;> rfl
theorem prep_drift_eq (c : Cfg α) (s : State α) :
    (prep c s).drift = if s.drift = .drift then .none else s.drift := by
  unfold prep; split <;> rfl

theorem prep_drift_ne (c : Cfg α) (s : State α) : (prep c s).drift ≠ .drift := by
  rw [prep_drift_eq]
  split
  · exact nofun
  · assumption

end prep

section base
variable {α : Type} [Add α] [Sub α] [Mul α] [Div α] [NatCast α] [HasSqrt α]

theorem base_target (c : Cfg α) (s : State α) (x : α) :
    (base c s x).target = if estNow c s = true then some (mean (x :: s.hist).reverse) else s.target := rfl
theorem base_sd (c : Cfg α) (s : State α) (x : α) :
    (base c s x).sd = if estNow c s = true then some (std (x :: s.hist).reverse) else s.sd := rfl
theorem base_sh (c : Cfg α) (s : State α) (x : α) :
    (base c s x).sh = if early c s = true then zero else s.sh := rfl
theorem base_sl (c : Cfg α) (s : State α) (x : α) :
    (base c s x).sl = if early c s = true then zero else s.sl := rfl

theorem base_target_none (c : Cfg α) (s : State α) (x : α) (h : (base c s x).target = none) :
    s.target = none ∧ estNow c s = false := by
  rw [base_target] at h
  split at h
  · cases h
  · exact ⟨h, Bool.eq_false_iff.2 (by assumption)⟩

end base

section advance
variable {α : Type} [Add α] [Sub α] [Div α] [LT α] [DecidableLT α] [NatCast α]

/-- `advance` touches the two statistics and, through the alarm check on them, the drift flag -/
theorem advance_eq (c : Cfg α) (b : State α) (x t d : α) :
    advance c b x t d =
      { b with sh := upper c.delta b.sh ((x - t) / d), sl := lower c.delta b.sl ((x - t) / d),
               drift := if b.since > c.burnIn ∧
                   alarm c (upper c.delta b.sh ((x - t) / d)) (lower c.delta b.sl ((x - t) / d)) = true
                 then .drift else b.drift } :=
  finish_eq c _

theorem advance_drift (c : Cfg α) (b : State α) (x t d : α) (h : b.drift ≠ .drift) :
    (advance c b x t d).drift = .drift ↔
      (advance c b x t d).since > c.burnIn ∧
        alarm c (advance c b x t d).sh (advance c b x t d).sl = true := by
  rw [advance_eq]
  exact (Drift.ite_eq_drift _ _).trans (or_iff_left h)

end advance

variable {α : Type} [Add α] [Sub α] [Mul α] [Div α] [LT α] [DecidableLT α] [NatCast α] [BEq α]
  [HasSqrt α]

theorem step_eq (c : Cfg α) (s : State α) (x : α) : step c s x = core c (prep c s) x := rfl

theorem step_prep (c : Cfg α) (s : State α) (x : α) : step c (prep c s) x = step c s x := by
  rw [step_eq, prep_of_not_drift c _ (prep_drift_ne c s)]; rfl

theorem step_of_not_drift (c : Cfg α) (s : State α) (x : α) (h : s.drift ≠ .drift) :
    step c s x = core c s x := by
  rw [step_eq, prep_of_not_drift c s h]

/-- how `core` can end: in the state `base` leaves — raising, or normally with nothing computed (target
    unknown, strictly inside the burn-in: both statistics are the zeros `base` pads with) — or normally
    with the statistics advanced from where `s` has them -/
theorem core_cases (c : Cfg α) (s : State α) (x : α) :
    ((core c s x).1 = base c s x ∧
      ((core c s x).2 = .ok → (base c s x).target = none ∧ early c s = true)) ∨
    (∃ t d, (base c s x).target = some t ∧ (base c s x).sd = some d ∧ early c s = false ∧
      core c s x = (advance c (base c s x) x t d, .ok)) := by
  unfold core
  simp only
  split
  · exact .inl ⟨rfl, nofun⟩
  · split
    · rename_i ht
      split
      · exact .inl ⟨rfl, nofun⟩
      · -- not past the burn-in, and not completing it either: `base` would have estimated the target
        obtain ⟨hs, he⟩ := base_target_none c s x ht
        refine .inl ⟨rfl, fun _ => ⟨ht, (early_iff c s).2 ⟨hs, Nat.lt_of_le_of_ne (Nat.le_of_not_lt ‹_›) fun e => ?_⟩⟩⟩
        rw [(estNow_iff c s).2 ⟨hs, e⟩] at he; cases he
    · exact .inl ⟨rfl, nofun⟩
    · rename_i t d ht hd
      refine .inr ⟨t, d, ht, hd, Bool.eq_false_iff.2 fun he => ?_, rfl⟩
      -- inside an unknown-target burn-in `base` leaves the target unknown
      obtain ⟨hn, hlt⟩ := (early_iff c s).1 he
      rw [base_target, if_neg fun he' => Nat.ne_of_lt hlt ((estNow_iff c s).1 he').2, hn] at ht
      cases ht

theorem core_counters (c : Cfg α) (s : State α) (x : α) :
    (core c s x).1.total = s.total + 1 ∧ (core c s x).1.since = s.since + 1 ∧
    (core c s x).1.hist = x :: s.hist := by
  rcases core_cases c s x with h | ⟨t, d, _, _, _, h⟩
  · rw [h.1]; exact ⟨rfl, rfl, rfl⟩
  · rw [h, advance_eq]; exact ⟨rfl, rfl, rfl⟩

theorem step_counters (c : Cfg α) (s : State α) (x : α) :
    (step c s x).1.total = s.total + 1 ∧
    (step c s x).1.since = (if s.drift = .drift then 1 else s.since + 1) ∧
    (step c s x).1.hist = x :: s.hist := by
  obtain ⟨h1, h2, h3⟩ := core_counters c (prep c s) x
  refine ⟨h1.trans (by rw [prep_total]), h2.trans ?_, h3.trans (by rw [prep_hist])⟩
  rw [prep_since]; split <;> rfl

/-- `total_samples` counts every update (also one that raises) -/
theorem step_total (c : Cfg α) (s : State α) (x : α) : (step c s x).1.total = s.total + 1 :=
  (step_counters c s x).1

/-- `samples_since_reset` restarts at 1 on the update after an alarm -/
theorem step_since (c : Cfg α) (s : State α) (x : α) :
    (step c s x).1.since = if s.drift = .drift then 1 else s.since + 1 :=
  (step_counters c s x).2.1

/-- `_stream` is only ever appended to -/
theorem step_hist (c : Cfg α) (s : State α) (x : α) : (step c s x).1.hist = x :: s.hist :=
  (step_counters c s x).2.2

theorem core_drift (c : Cfg α) (s : State α) (x : α) :
    (core c s x).1.drift = s.drift ∨
    ((core c s x).1.drift = .drift ∧ (core c s x).1.since > c.burnIn) := by
  rcases core_cases c s x with h | ⟨t, d, _, _, _, h⟩
  · rw [h.1]; exact Or.inl rfl
  · rw [h, advance_eq]
    dsimp only
    split
    · rename_i hc; exact Or.inr ⟨rfl, hc.1⟩
    · exact Or.inl rfl

theorem core_drift_past (c : Cfg α) (s : State α) (x : α) (hd : s.drift ≠ .drift)
    (h : (core c s x).1.drift = .drift) : c.burnIn < (core c s x).1.since :=
  (core_drift c s x).elim (fun e => absurd (e ▸ h) hd) (·.2)

theorem step_drift (c : Cfg α) (s : State α) (x : α) :
    (step c s x).1.drift = (if s.drift = .drift then .none else s.drift) ∨
    ((step c s x).1.drift = .drift ∧ (step c s x).1.since > c.burnIn) :=
  prep_drift_eq c s ▸ core_drift c (prep c s) x

/-- the drift decision of an update that returned normally: the threshold test in the configured
    direction on the two statistics, and only past the burn-in (and only once the constants exist) -/
theorem step_decision (c : Cfg α) (s : State α) (x : α) (hok : (step c s x).2 = .ok) :
    (step c s x).1.drift = .drift ↔
      (step c s x).1.since > c.burnIn ∧ (step c s x).1.target.isSome = true ∧
        alarm c (step c s x).1.sh (step c s x).1.sl = true := by
  rw [step_eq] at hok ⊢
  have hp : (base c (prep c s) x).drift ≠ .drift := prep_drift_ne c s
  rcases core_cases c (prep c s) x with ⟨h', hn⟩ | ⟨t, d, ht, -, -, h'⟩
  · rw [h']
    exact ⟨fun h => absurd h hp, fun h => by rw [(hn hok).1] at h; cases h.2.1⟩
  · rw [h', advance_drift c _ x t d hp, advance_eq]
    simp [ht]

theorem core_consts (c : Cfg α) (s : State α) (x : α) :
    (core c s x).1.target = (base c s x).target ∧ (core c s x).1.sd = (base c s x).sd := by
  rcases core_cases c s x with h | ⟨t, d, _, _, _, h⟩
  · rw [h.1]; exact ⟨rfl, rfl⟩
  · rw [h, advance_eq]; exact ⟨rfl, rfl⟩

theorem core_target_none (c : Cfg α) (s : State α) (x : α) (h : (core c s x).1.target = none) :
    s.target = none :=
  (base_target_none c s x ((core_consts c s x).1 ▸ h)).1

/-- **Frame of `core`**: `total_samples` is only counted, and `_stream` is only appended to — except
    by the update that estimates the constants, which reads all of it. -/
theorem core_frame (c : Cfg α) (s : State α) (x : α) (T : Nat) (H : List α)
    (hH : estNow c s = true → H = s.hist) :
    core c { s with total := T, hist := H } x =
      ({ (core c s x).1 with total := T + 1, hist := x :: H }, (core c s x).2) := by
  have hb : base c { s with total := T, hist := H } x =
      { base c s x with total := T + 1, hist := x :: H } := by
    unfold base
    by_cases he : estNow c s = true
    · rw [hH he]; rfl
    · have he' : estNow c s = false := Bool.eq_false_iff.2 he
      have he'' : estNow c { s with total := T, hist := H } = false := he'
      simp only [he', he'']; rfl
  unfold core
  dsimp only
  rw [hb]
  dsimp only
  split
  · rfl
  · split
    · split <;> rfl
    · rfl
    · rw [advance_eq, advance_eq]

theorem runFrom_cons (c : Cfg α) (s : State α) (x : α) (xs : List α) :
    runFrom c s (x :: xs) =
      if (step c s x).2 = .ok then runFrom c (step c s x).1 xs else none := by
  rw [runFrom]
  generalize step c s x = r
  obtain ⟨s1, o⟩ := r
  cases o <;> rfl

/-- `step` never reads the constructor arguments `target` / `sd_hat` (only `init` does) -/
theorem step_cfg_consts (c : Cfg α) (t d : Option α) (s : State α) (x : α) :
    step { c with target0 := t, sd0 := d } s x = step c s x := rfl

theorem runFrom_cfg_consts (c : Cfg α) (t d : Option α) (s : State α) (xs : List α) :
    runFrom { c with target0 := t, sd0 := d } s xs = runFrom c s xs := by
  induction xs generalizing s with
  | nil => rfl
  | cons x xs ih => rw [runFrom_cons, runFrom_cons, step_cfg_consts, ih]

theorem runFrom_induction (c : Cfg α) (P : State α → Prop)
    (hstep : ∀ s x, P s → (step c s x).2 = .ok → P (step c s x).1) (s : State α) (h : P s)
    (xs : List α) {s' : State α} (hr : runFrom c s xs = some s') : P s' := by
  induction xs generalizing s with
  | nil => cases hr; exact h
  | cons x xs ih =>
    rw [runFrom_cons] at hr
    split at hr
    · rename_i hok; exact ih _ (hstep s x h hok) hr
    · cases hr

theorem runFrom_append (c : Cfg α) (s : State α) (xs ys : List α) :
    runFrom c s (xs ++ ys) = (runFrom c s xs).bind (fun s' => runFrom c s' ys) := by
  induction xs generalizing s with
  | nil => rfl
  | cons x xs ih =>
    rw [List.cons_append, runFrom_cons, runFrom_cons]
    split
    · exact ih _
    · rfl

theorem run_append (c : Cfg α) (xs ys : List α) :
    run c (xs ++ ys) = (run c xs).bind (fun s => runFrom c s ys) :=
  runFrom_append c (init c) xs ys

theorem runFrom_counters {c : Cfg α} {xs : List α} {s s' : State α} (hr : runFrom c s xs = some s') :
    s'.total = s.total + xs.length ∧ s'.hist = xs.reverse ++ s.hist := by
  induction xs generalizing s with
  | nil => cases hr; exact ⟨rfl, rfl⟩
  | cons x xs ih =>
    rw [runFrom_cons] at hr
    split at hr
    · obtain ⟨h1, h2⟩ := ih hr
      rw [h1, h2, step_hist, step_total, List.reverse_cons, List.append_assoc, List.length_cons]
      exact ⟨by rw [Nat.add_assoc, Nat.add_comm 1], rfl⟩
    · cases hr

end MV.Cusum

namespace MV.PH

section pre
variable {α : Type} [NatCast α]

/-- the state in which `update` computes: `if self.drift_state == "drift": self.reset()` comes first -/
def pre (s : State α) : State α := if s.drift = .drift then reset s else s

theorem pre_drift_ne (s : State α) : (pre s).drift ≠ .drift := by
  unfold pre
  split
  · exact nofun
  · assumption

end pre

variable {α : Type} [Add α] [Sub α] [Mul α] [Div α] [LT α] [DecidableLT α] [NatCast α]

theorem step_eq (c : Cfg α) (s : State α) (x : α) : step c s x = core c (pre s) x := rfl

theorem step_of_not_drift (c : Cfg α) (s : State α) (x : α) (h : s.drift ≠ .drift) :
    step c s x = core c s x :=
  congrArg (core c · x) (if_neg h)

/-- one update, field by field; the code's `if sum < min: min = sum`, `if sum > max: max = sum` are
    `pyMin` / `pyMax` of `Base/Arith` -/
theorem core_eq (c : Cfg α) (s : State α) (x : α) :
    (core c s x).1 =
      let mean := s.mean + (x - s.mean) / ((s.since + 1 : Nat) : α)
      let sum := s.sum + x - mean - c.delta
      { total := s.total + 1, since := s.since + 1, mean := mean, sum := sum,
        mn := pyMin s.mn sum, mx := pyMax s.mx sum,
        drift := if (core c s x).2.check = true ∧ s.since + 1 > c.burnIn then .drift else s.drift } :=
  rfl

theorem core_stats (c : Cfg α) (s : State α) (x : α) :
    (core c s x).1.mean = s.mean + (x - s.mean) / ((s.since + 1 : Nat) : α) ∧
    (core c s x).1.sum = s.sum + x - (core c s x).1.mean - c.delta ∧
    (core c s x).1.mn = pyMin s.mn (core c s x).1.sum ∧
    (core c s x).1.mx = pyMax s.mx (core c s x).1.sum :=
  ⟨rfl, rfl, rfl, rfl⟩

theorem core_drift_eq (c : Cfg α) (s : State α) (x : α) :
    (core c s x).1.drift =
      if (core c s x).2.check = true ∧ (core c s x).1.since > c.burnIn then .drift else s.drift :=
  rfl

theorem core_decision (c : Cfg α) (s : State α) (x : α) (hp : s.drift ≠ .drift) :
    (core c s x).1.drift = .drift ↔
      (core c s x).1.since > c.burnIn ∧ (core c s x).2.check = true := by
  rw [core_drift_eq]
  exact (Drift.ite_eq_drift _ _).trans ((or_iff_left hp).trans and_comm)

/-- `total_samples` counts every update -/
theorem step_total (c : Cfg α) (s : State α) (x : α) : (step c s x).1.total = s.total + 1 := by
  unfold step; split <;> rfl

/-- `samples_since_reset` restarts at 1 on the update after an alarm -/
theorem step_since (c : Cfg α) (s : State α) (x : α) :
    (step c s x).1.since = if s.drift = .drift then 1 else s.since + 1 := by
  unfold step; split <;> rfl

/-- the drift decision of an update is the documented test — `ph_difference > threshold * mean`, as
    recorded in the row's `drift_detected` — and only past the burn-in -/
theorem step_decision (c : Cfg α) (s : State α) (x : α) :
    (step c s x).1.drift = .drift ↔
      (step c s x).1.since > c.burnIn ∧ (step c s x).2.check = true :=
  core_decision c _ x (pre_drift_ne s)

theorem core_drift (c : Cfg α) (s : State α) (x : α) :
    (core c s x).1.drift = s.drift ∨
    ((core c s x).1.drift = .drift ∧ (core c s x).1.since > c.burnIn) := by
  rw [core_drift_eq]
  split
  · rename_i h; exact Or.inr ⟨rfl, h.2⟩
  · exact Or.inl rfl

theorem step_drift (c : Cfg α) (s : State α) (x : α) :
    (step c s x).1.drift = (if s.drift = .drift then .none else s.drift) ∨
    ((step c s x).1.drift = .drift ∧ (step c s x).1.since > c.burnIn) := by
  unfold step
  split
  · exact core_drift c (reset s) x
  · exact core_drift c s x

/-- **Frame of `core`**: `total_samples` is only counted -/
theorem core_frame (c : Cfg α) (s : State α) (x : α) (T : Nat) :
    core c { s with total := T } x = ({ (core c s x).1 with total := T + 1 }, (core c s x).2) := rfl

theorem step_frame (c : Cfg α) (s : State α) (x : α) (T : Nat) :
    step c { s with total := T } x = ({ (step c s x).1 with total := T + 1 }, (step c s x).2) := by
  unfold step; dsimp only; split <;> rfl

/-- the update after an alarm is a new detector's first update, with the count carried on -/
theorem step_of_drift (c : Cfg α) (s : State α) (x : α) (hd : s.drift = .drift) :
    step c s x = ({ (step c init x).1 with total := s.total + 1 }, (step c init x).2) := by
  unfold step; rw [if_pos hd]; rfl

def runFrom (c : Cfg α) (s : State α) (xs : List α) : State α :=
  xs.foldl (fun s x => (step c s x).1) s

theorem runFrom_total (c : Cfg α) (s : State α) (xs : List α) :
    (runFrom c s xs).total = s.total + xs.length := by
  induction xs generalizing s with
  | nil => rfl
  | cons x xs ih =>
    exact (ih _).trans (by rw [step_total, List.length_cons, Nat.add_assoc, Nat.add_comm 1])

theorem run_total (c : Cfg α) (xs : List α) : (run c xs).total = xs.length :=
  (runFrom_total c init xs).trans (Nat.zero_add _)

theorem runFrom_append (c : Cfg α) (s : State α) (xs ys : List α) :
    runFrom c s (xs ++ ys) = runFrom c (runFrom c s xs) ys :=
  List.foldl_append

theorem run_snoc (c : Cfg α) (xs : List α) (x : α) :
    run c (xs ++ [x]) = (step c (run c xs) x).1 :=
  runFrom_append c init xs [x]

end MV.PH
