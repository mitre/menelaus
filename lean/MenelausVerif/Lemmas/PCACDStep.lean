/-
  One `PCACD.update`.  `fill` and `slide` are written as a single record whose fields carry the case
  distinctions (a field of such a record is read off by `rfl`, a field of an `if` of records is not);
  `build`, `score` and `slideProj` get one equation per metric; `step` is then given phase by phase:
  sliding, the update after a drift, a quiet update of the fill phase; `step_fields` gives, for all
  phases at once and from any state, total, since, scores and the monitor, and only those:
  `drift` and `building` after an update are in the phase lemmas (`step_sliding_cases`, `step_drifted`,
  `step_fill`).  The end of the fill phase is `fillTestLen c s = c.w` in `step_building` and a
  condition on the two window lengths in `step_fill`; `fillTestLen_of_quiet` leads from one to the other.
  Then histories: `run c inputs` is `runFrom c init inputs` (`run_eq`, by `rfl`), induct with
  `runFrom_induction`; and the invariant `Inv` of the states reachable from `init` (never `warning`,
  the monitor quiet while the detector is, the window lengths of each phase).  No lemma before
  `Inv` assumes it; `step_drifted`, `inv_init` and `inv_step` ask for `0 < c.w`.  `run_eq` and
  `inv_run` are stated with `[IntCast α]` besides the instances `run` takes; where it is missing,
  `inv_run` is `runFrom_induction c (Inv c) (inv_step c hw) init (inv_init c hw)`.
-/
import MenelausVerif.Model.PCACD
namespace MV.PCACD
open MV

theorem scheduled_iff {X α : Type} (c : Cfg α) (s : State X α) :
    scheduled c s = true ↔ s.total % c.step = 0 ∧ s.total ≠ 0 :=
  decide_eq_true_iff

/-- `fillTestLen` where the fill phase goes on (no drift pending, test window short): the sample
    goes to the test window once the reference window is full -/
theorem fillTestLen_of_quiet {X α : Type} (c : Cfg α) (s : State X α) (hd : s.drift = .none)
    (ht : s.test.length < c.w) :
    fillTestLen c s = if s.ref.length < c.w then s.test.length else s.test.length + 1 := by
  simp [fillTestLen, hd, ht]

section Fill
variable {X α : Type} [NatCast α]

/-- `drift := .none` in every case: the quiet branches of `fill` keep `s.drift`, which is `.none` there -/
theorem fill_eq (c : Cfg α) (s : State X α) (x : X) :
    fill c s x =
      { s with total := s.total + 1,
               since := if s.drift ≠ .none then 0 else s.since + 1,
               drift := .none,
               ref := if s.drift ≠ .none then s.test else if s.ref.length < c.w then s.ref ++ [x] else s.ref,
               test := if s.drift ≠ .none then [] else if s.ref.length < c.w then s.test
                       else if s.test.length < c.w then s.test ++ [x] else s.test,
               ph := if s.drift ≠ .none then PH.reset s.ph else s.ph } := by
  unfold fill
  by_cases hd : s.drift = .none
  · by_cases hr : s.ref.length < c.w
    · simp [hd, hr]
    · by_cases ht : s.test.length < c.w
      · simp [hd, hr, ht]
      · simp [hd, hr, ht]
  · simp [hd]

theorem fill_test_length (c : Cfg α) (s : State X α) (x : X) :
    (fill c s x).test.length = fillTestLen c s := by
  rw [fill_eq]
  simp [fillTestLen, apply_ite List.length]

end Fill

section SlideProj
variable {X α : Type} [LT α] [DecidableLT α]

theorem slideProj_intersection (c : Cfg α) (hm : c.metric = .intersection) (s : State X α) (o : Oracle α) :
    slideProj c s o =
      List.zipWith (fun col v => col.drop 1 ++ [v]) s.testProj (winsorAll s.lower s.upper o.proj) := by
  unfold slideProj; rw [hm]

theorem slideProj_kl (c : Cfg α) (hm : c.metric = .kl) (s : State X α) (o : Oracle α) :
    slideProj c s o = s.testProj := by
  unfold slideProj; rw [hm]

end SlideProj

section Step
variable {X α : Type} [Add α] [Sub α] [Mul α] [Div α] [LT α] [DecidableLT α] [LE α] [DecidableLE α]
  [NatCast α] [HasTrunc α]

theorem build_intersection (c : Cfg α) (hm : c.metric = .intersection) (s : State X α) (o : Oracle α) :
    build c s o =
      { s with building := false, numPcs := some o.numPcs,
               lower := List.zipWith (fun r t => pyMin (minL r) (minL t)) o.refProj o.testProj,
               upper := List.zipWith (fun r t => pyMax (maxL r) (maxL t)) o.refProj o.testProj,
               refProj := o.refProj, testProj := o.testProj,
               densRef := hists c.bins
                 (List.zipWith (fun r t => pyMin (minL r) (minL t)) o.refProj o.testProj)
                 (List.zipWith (fun r t => pyMax (maxL r) (maxL t)) o.refProj o.testProj) o.refProj } := by
  unfold build; rw [hm]

theorem build_kl (c : Cfg α) (hm : c.metric = .kl) (s : State X α) (o : Oracle α) :
    build c s o = { s with building := false, numPcs := some o.numPcs } := by
  unfold build; rw [hm]

@[simp] theorem build_frame (c : Cfg α) (s : State X α) (o : Oracle α) :
    (build c s o).total = s.total ∧ (build c s o).since = s.since ∧ (build c s o).drift = s.drift ∧
    (build c s o).ref = s.ref ∧ (build c s o).test = s.test ∧ (build c s o).ph = s.ph ∧
    (build c s o).scores = s.scores ∧ (build c s o).building = false ∧
    (build c s o).numPcs = some o.numPcs := by
  cases hm : c.metric
  · rw [build_kl c hm]; exact ⟨rfl, rfl, rfl, rfl, rfl, rfl, rfl, rfl, rfl⟩
  · rw [build_intersection c hm]; exact ⟨rfl, rfl, rfl, rfl, rfl, rfl, rfl, rfl, rfl⟩

theorem score_intersection (c : Cfg α) (hm : c.metric = .intersection) (s : State X α)
    (tp : List (List α)) (o : Oracle α) :
    score c s tp o = maxL (List.zipWith interDiv s.densRef (hists c.bins s.lower s.upper tp)) := by
  unfold score; rw [hm]

theorem score_kl (c : Cfg α) (hm : c.metric = .kl) (s : State X α) (tp : List (List α)) (o : Oracle α) :
    score c s tp o = maxL o.js := by
  unfold score; rw [hm]

/-- after `rw [slide_eq]`, `dsimp only` removes the two `let`s -/
theorem slide_eq (c : Cfg α) (s : State X α) (x : X) (o : Oracle α) :
    slide c s x o =
      let sc := score c s (slideProj c s o) o
      let ph' := (PH.step c.ph s.ph sc).1
      { s with total := s.total + 1, since := s.since + 1, test := s.test.drop 1 ++ [x],
               testProj := slideProj c s o,
               scores := if scheduled c s then s.scores ++ [sc] else s.scores,
               ph := if scheduled c s then ph' else s.ph,
               building := if scheduled c s ∧ ph'.drift ≠ .none then true else s.building,
               drift := if scheduled c s ∧ ph'.drift ≠ .none then .drift else s.drift } := by
  unfold slide
  by_cases hs : scheduled c s = true
  · by_cases ha : (PH.step c.ph s.ph (score c s (slideProj c s o) o)).1.drift = .none
    · simp [hs, ha]
    · simp [hs, ha]
  · simp [hs]

theorem step_sliding (c : Cfg α) (s : State X α) (x : X) (o : Oracle α) (hb : s.building = false) :
    step c s x o = slide c s x o := by
  simp [step, hb]

/-- a sliding update changes `drift_state` and the phase only where the monitor, fed on the
    schedule, leaves `None`; a monitor that was quiet and stays quiet is quiet afterwards -/
theorem step_sliding_cases (c : Cfg α) (s : State X α) (x : X) (o : Oracle α) (hb : s.building = false) :
    (scheduled c s = true ∧ (step c s x o).drift = .drift ∧ (step c s x o).building = true ∧
      (step c s x o).since = s.since + 1) ∨
    ((step c s x o).drift = s.drift ∧ (step c s x o).building = false ∧
      (step c s x o).since = s.since + 1 ∧ (s.ph.drift = .none → (step c s x o).ph.drift = .none)) := by
  rw [step_sliding c s x o hb, slide_eq]
  dsimp only
  by_cases hA : scheduled c s = true ∧ (PH.step c.ph s.ph (score c s (slideProj c s o) o)).1.drift ≠ .none
  · rw [if_pos hA, if_pos hA]
    exact .inl ⟨hA.1, rfl, rfl, rfl⟩
  · rw [if_neg hA, if_neg hA]
    refine .inr ⟨rfl, hb, rfl, fun hp => ?_⟩
    split
    · exact Decidable.not_not.mp fun h' => hA ⟨‹_›, h'⟩
    · exact hp

theorem step_building (c : Cfg α) (s : State X α) (x : X) (o : Oracle α) (hb : s.building = true) :
    step c s x o = if fillTestLen c s = c.w then build c (fill c s x) o else fill c s x := by
  simp [step, hb, fill_test_length]

/-- the update after a drift: the sample is discarded.  `hw`: with `window_size = 0` the emptied
    test window would count as full and `build` would run -/
theorem step_drifted (c : Cfg α) (hw : 0 < c.w) (s : State X α) (x : X) (o : Oracle α)
    (hb : s.building = true) (hd : s.drift ≠ .none) :
    step c s x o = { s with total := s.total + 1, since := 0, drift := .none, ref := s.test, test := [],
                            ph := PH.reset s.ph } := by
  simp [step, fill, hb, hd, Nat.ne_of_lt hw]

/-- a quiet update of the fill phase: the sample goes to the reference window while that is short,
    then to the test window; the sample that completes the test window triggers `build`, which ends
    the phase and leaves these fields alone -/
theorem step_fill (c : Cfg α) (s : State X α) (x : X) (o : Oracle α)
    (hb : s.building = true) (hd : s.drift = .none) (ht : s.test.length < c.w) :
    (step c s x o).total = s.total + 1 ∧ (step c s x o).since = s.since + 1 ∧
    (step c s x o).drift = .none ∧ (step c s x o).scores = s.scores ∧ (step c s x o).ph = s.ph ∧
    (step c s x o).ref = (if s.ref.length < c.w then s.ref ++ [x] else s.ref) ∧
    (step c s x o).test = (if s.ref.length < c.w then s.test else s.test ++ [x]) ∧
    (step c s x o).building = decide (s.ref.length < c.w ∨ s.test.length + 1 < c.w) ∧
    (s.ref.length < c.w ∨ s.test.length + 1 < c.w → (step c s x o).numPcs = s.numPcs) := by
  rw [step_building c s x o hb, fillTestLen_of_quiet c s hd ht]
  by_cases hr : s.ref.length < c.w
  · simp [fill_eq, hd, hr, hb, Nat.ne_of_lt ht]
  · rw [if_neg hr]
    split
    · simp [fill_eq, hd, hr, ht]; omega
    · simp [fill_eq, hd, hr, ht, hb]; omega

theorem step_fields (c : Cfg α) (s : State X α) (x : X) (o : Oracle α) :
    (step c s x o).total = s.total + 1 ∧
    (step c s x o).since = (if s.building = true ∧ s.drift ≠ .none then 0 else s.since + 1) ∧
    (step c s x o).scores =
      (if s.building = false ∧ s.total % c.step = 0 ∧ s.total ≠ 0
       then s.scores ++ [score c s (slideProj c s o) o] else s.scores) ∧
    (step c s x o).ph =
      if s.building = false then
        (if s.total % c.step = 0 ∧ s.total ≠ 0
         then (PH.step c.ph s.ph (score c s (slideProj c s o) o)).1 else s.ph)
      else if s.drift ≠ .none then PH.reset s.ph else s.ph := by
  cases hb : s.building
  · simp [step_sliding, slide_eq, hb, scheduled_iff]
  · rw [step_building c s x o hb]
    split <;> simp [fill_eq]

def runFrom (c : Cfg α) (s : State X α) (inputs : List (X × Oracle α)) : State X α :=
  inputs.foldl (fun s xo => step c s xo.1 xo.2) s

theorem runFrom_append (c : Cfg α) (s : State X α) (a b : List (X × Oracle α)) :
    runFrom c s (a ++ b) = runFrom c (runFrom c s a) b :=
  List.foldl_append

theorem run_append (c : Cfg α) (a b : List (X × Oracle α)) :
    run c (a ++ b) = runFrom c (run c a) b :=
  runFrom_append c init a b

theorem runFrom_snoc (c : Cfg α) (s : State X α) (a : List (X × Oracle α)) (xo : X × Oracle α) :
    runFrom c s (a ++ [xo]) = step c (runFrom c s a) xo.1 xo.2 :=
  runFrom_append c s a [xo]

theorem run_snoc (c : Cfg α) (a : List (X × Oracle α)) (xo : X × Oracle α) :
    run c (a ++ [xo]) = step c (run c a : State X α) xo.1 xo.2 :=
  runFrom_snoc c init a xo

theorem runFrom_induction (c : Cfg α) (P : State X α → Prop)
    (hstep : ∀ s x o, P s → P (step c s x o)) (s : State X α) (h : P s)
    (inputs : List (X × Oracle α)) : P (runFrom c s inputs) :=
  List.foldlRecOn inputs _ h fun s hs xo _ => hstep s xo.1 xo.2 hs

/-- what holds in every state reachable from `init` when `window_size ≥ 1` (with an empty window
    the test window is "full" at once and `build` runs on the first sample) -/
structure Inv (c : Cfg α) (s : State X α) : Prop where
  notWarning : s.drift ≠ .warning
  phNone : s.drift = .none → s.ph.drift = .none
  sliding : s.building = false → s.drift = .none ∧ s.test.length = c.w ∧ s.ref.length = c.w
  filling : s.building = true → s.drift = .none →
    s.test.length < c.w ∧ s.ref.length ≤ c.w ∧ (s.ref.length < c.w → s.test = [])
  drifted : s.drift ≠ .none → s.building = true ∧ s.test.length = c.w ∧ s.ref.length = c.w

theorem inv_step (c : Cfg α) (hw : 0 < c.w) (s : State X α) (x : X) (o : Oracle α) (h : Inv c s) :
    Inv c (step c s x o) := by
  cases hb : s.building
  · -- sliding: the windows stay full; a drift is reported together with `building := true`
    obtain ⟨hd, ht, hr⟩ := h.sliding hb
    have hl : (step c s x o).test.length = c.w := by
      rw [step_sliding c s x o hb, slide_eq]
      show (s.test.drop 1 ++ [x]).length = c.w
      rw [List.length_append, List.length_drop, ht, List.length_singleton]
      exact Nat.sub_add_cancel hw
    have hr' : (step c s x o).ref.length = c.w := by rw [step_sliding c s x o hb, slide_eq]; exact hr
    rcases step_sliding_cases c s x o hb with ⟨-, e1, e2, -⟩ | ⟨e1, e2, -, e3⟩
    · exact ⟨e1 ▸ nofun, fun h' => absurd (e1 ▸ h') nofun, fun h' => absurd (e2 ▸ h') nofun,
        fun _ h' => absurd (e1 ▸ h') nofun, fun _ => ⟨e2, hl, hr'⟩⟩
    · rw [hd] at e1
      exact ⟨e1 ▸ nofun, fun _ => e3 (h.phNone hd), fun _ => ⟨e1, hl, hr'⟩,
        fun h' => absurd (e2 ▸ h') nofun, fun h' => absurd e1 h'⟩
  · by_cases hd : s.drift = .none
    · obtain ⟨ht, hr, he⟩ := h.filling hb hd
      obtain ⟨-, -, g3, -, g5, g6, g7, g8, -⟩ := step_fill c s x o hb hd ht
      refine ⟨g3 ▸ nofun, fun _ => g5 ▸ h.phNone hd, fun hb' => ?_, fun hb' _ => ?_, fun h' => absurd g3 h'⟩
      · -- the phase ends with the sample that completes the test window
        rw [g8, decide_eq_false_iff_not, not_or, Nat.not_lt, Nat.not_lt] at hb'
        rw [g6, g7, if_neg (Nat.not_lt.mpr hb'.1), if_neg (Nat.not_lt.mpr hb'.1), List.length_append,
          List.length_singleton]
        exact ⟨g3, Nat.le_antisymm ht hb'.2, Nat.le_antisymm hr hb'.1⟩
      · rw [g8, decide_eq_true_eq] at hb'
        rw [g6, g7]
        by_cases hr' : s.ref.length < c.w
        · rw [if_pos hr', if_pos hr', he hr', List.length_append, List.length_singleton]
          exact ⟨hw, hr', fun _ => rfl⟩
        · rw [if_neg hr', if_neg hr', List.length_append, List.length_singleton]
          exact ⟨hb'.resolve_left hr', hr, fun h' => absurd h' hr'⟩
    · -- after a drift: the full test window becomes the reference window, the test window is empty
      obtain ⟨-, ht, -⟩ := h.drifted hd
      rw [step_drifted c hw s x o hb hd]
      exact ⟨nofun, fun _ => rfl, fun h' => absurd (hb ▸ h') nofun, fun _ _ => ⟨hw, Nat.le_of_eq ht, fun _ => rfl⟩,
        fun h' => absurd rfl h'⟩

end Step

theorem inv_init {X α : Type} [NatCast α] (c : Cfg α) (hw : 0 < c.w) : Inv c (init : State X α) :=
  ⟨nofun, fun _ => rfl, nofun, fun _ _ => ⟨hw, Nat.zero_le _, fun _ => rfl⟩, fun h => absurd rfl h⟩

section
set_option linter.unusedSectionVars false
variable {X α : Type} [Add α] [Sub α] [Mul α] [Div α] [LT α] [DecidableLT α] [LE α] [DecidableLE α]
  [NatCast α] [IntCast α] [HasTrunc α]

theorem run_eq (c : Cfg α) (inputs : List (X × Oracle α)) : run c inputs = runFrom c init inputs := rfl

theorem inv_run (c : Cfg α) (hw : 0 < c.w) (inputs : List (X × Oracle α)) :
    Inv c (run c inputs : State X α) :=
  runFrom_induction c (Inv c) (inv_step c hw) init (inv_init c hw) inputs

end

end MV.PCACD
