/-
  Arithmetic lemmas for the kdq-tree (C08, and the order part for C18): over linear orders (min / max of a column) and
  ordered fields (termination of `build`, corrected distributions sum to one).  What needs `Real.log` is in
  `Lemmas/KdqReal.lean`.
-/
import MenelausVerif.Lemmas.KdqTree
import MenelausVerif.Lemmas.Carrier
namespace MV.Kdq

theorem col_ne_nil {α : Type} [Inhabited α] {data : List (List α)} (h : data ≠ []) (a : Nat) : col data a ≠ [] := by
  cases data with
  | nil => exact absurd rfl h
  | cons r rs => simp [col]

section order
variable {K : Type} [LinearOrder K] [Inhabited K]

/-- `minOf` folds the comparison that `pyMin` makes -/
theorem minOf_least {xs : List K} (h : xs ≠ []) : minOf xs ∈ xs ∧ ∀ y ∈ xs, minOf xs ≤ y := by
  cases xs with
  | nil => exact absurd rfl h
  | cons x xs => exact foldl_pick_spec le_refl (fun _ _ _ => le_trans) pyMin_pick xs x

theorem maxOf_greatest {xs : List K} (h : xs ≠ []) : maxOf xs ∈ xs ∧ ∀ y ∈ xs, y ≤ maxOf xs := by
  cases xs with
  | nil => exact absurd rfl h
  | cons x xs => exact foldl_pick_spec (r := (· ≥ ·)) le_refl (fun _ _ _ h h' => le_trans h' h) pyMax_pick xs x

theorem minOf_mem {xs : List K} (h : xs ≠ []) : minOf xs ∈ xs := (minOf_least h).1
theorem minOf_le {xs : List K} {z : K} (hz : z ∈ xs) : minOf xs ≤ z := (minOf_least (List.ne_nil_of_mem hz)).2 z hz
theorem maxOf_mem {xs : List K} (h : xs ≠ []) : maxOf xs ∈ xs := (maxOf_greatest h).1
theorem le_maxOf {xs : List K} {z : K} (hz : z ∈ xs) : z ≤ maxOf xs := (maxOf_greatest (List.ne_nil_of_mem hz)).2 z hz

end order

section field
variable {K : Type} [Field K] [LinearOrder K] [Inhabited K]

theorem midpoint_eq (data : List (List K)) (axis : Nat) :
    midpoint data axis = minOf (col data axis) + ptp (col data axis) / 2 :=
  congrArg (fun t : K => minOf (col data axis) + ptp (col data axis) / t) (Nat.cast_ofNat : ((2 : Nat) : K) = 2)

variable [IsStrictOrderedRing K]

theorem ptp_nonneg (xs : List K) : 0 ≤ ptp xs := by
  cases xs with
  | nil => exact (sub_self _).ge
  | cons x xs =>
    have h := minOf_mem (List.cons_ne_nil x xs)
    exact sub_nonneg.2 ((minOf_le h).trans (le_maxOf h))

variable [BEq K]

/-- when the stop rule does not apply (cut sizes ≥ 0) the split value lies in `[min, max)` -/
theorem split_proper {ub : Nat} {mins : List K} {data : List (List K)} {axis : Nat}
    (hmin : 0 ≤ mins.getD axis default) (hs : stops ub mins data axis = false) :
    minOf (col data axis) ≤ midpoint data axis ∧ midpoint data axis < maxOf (col data axis) := by
  -- the third clause of the stop rule fails: half the range exceeds the (non-negative) cut size
  have hpos : 0 < ptp (col data axis) / 2 := by
    have := not_le.1 (stops_eq_false_iff.1 hs).2.2
    rw [midpoint_eq, add_sub_cancel_left] at this; exact hmin.trans_lt this
  have hp : 0 < ptp (col data axis) := add_halves (ptp (col data axis)) ▸ add_pos hpos hpos
  rw [midpoint_eq]
  exact ⟨le_add_of_nonneg_right hpos.le,
    (add_lt_add_right (half_lt_self hp) _).trans_eq (add_sub_cancel _ _)⟩

/-- when the stop rule does not apply both halves are non-empty (they hold a row with the least / the
    greatest coordinate) and strictly smaller -/
theorem halves_proper {ub : Nat} {mins : List K} {data : List (List K)} {axis : Nat}
    (hmin : 0 ≤ mins.getD axis default) (hne : data ≠ []) (hs : stops ub mins data axis = false) :
    (data.filter (goesDown axis (midpoint data axis))).length < data.length ∧
    data.filter (goesDown axis (midpoint data axis)) ≠ [] ∧
    (data.filter (goesUp axis (midpoint data axis))).length < data.length ∧
    data.filter (goesUp axis (midpoint data axis)) ≠ [] := by
  obtain ⟨h1, h2⟩ := split_proper hmin hs
  obtain ⟨rmx, hrmx, emx⟩ := List.mem_map.mp (maxOf_mem (col_ne_nil hne axis))
  obtain ⟨rmn, hrmn, emn⟩ := List.mem_map.mp (minOf_mem (col_ne_nil hne axis))
  refine ⟨List.length_filter_lt_length_iff_exists.mpr ⟨rmx, hrmx, ?_⟩,
    List.ne_nil_of_mem (List.mem_filter.mpr ⟨hrmn, ?_⟩),
    List.length_filter_lt_length_iff_exists.mpr ⟨rmn, hrmn, ?_⟩,
    List.ne_nil_of_mem (List.mem_filter.mpr ⟨hrmx, ?_⟩)⟩ <;>
    simp only [goesDown, goesUp, emx, emn, decide_eq_true_eq, not_le, not_lt] <;> assumption

theorem buildAux_isSome (ub : Nat) (mins : List K) (m : Nat) (hmins : ∀ a, a < m → 0 ≤ mins.getD a default)
    (fuel d : Nat) (data : List (List K)) (hlen : data.length < fuel) :
    ∃ t, buildAux ub mins m fuel d data = some t := by
  fun_induction buildAux ub mins m fuel d data with
  | case1 => omega
  | case2 | case3 | case4 => exact ⟨_, rfl⟩
  | case5 fuel d data h0 axis hs mid upper lower hno ihl ihr =>
    -- both halves are strictly smaller, so the fuel suffices for them
    have hm : 0 < m := by omega
    obtain ⟨ll, -, ul, -⟩ := halves_proper (hmins (d % m) (Nat.mod_lt _ hm)) (by rintro rfl; simp at h0)
      ((Bool.not_eq_true _).mp hs)
    obtain ⟨l, hl⟩ := ihl (Nat.lt_of_lt_of_le ll (Nat.le_of_lt_succ hlen))
    obtain ⟨r, hr⟩ := ihr (Nat.lt_of_lt_of_le ul (Nat.le_of_lt_succ hlen))
    exact (hno l r hl hr).elim

theorem Built.noNilBelow {ub : Nat} {mins : List K} {m d : Nat} {data : List (List K)} {t : Tree K}
    (hmins : ∀ a, a < m → 0 ≤ mins.getD a default) (hm : 0 < m) (h : Built ub mins m d data t) (hne : data ≠ []) :
    t.noNilBelow = true := by
  induction h with
  | nil h => exact absurd (List.eq_nil_of_length_eq_zero (h.resolve_right (by omega))) hne
  | leaf => rfl
  | node h0 hs hl hr ihl ihr =>
    obtain ⟨-, ln, -, un⟩ := halves_proper (hmins _ (Nat.mod_lt _ hm)) hne hs
    simp [Tree.noNilBelow, ihl ln, ihr un]

end field

section distn
variable {K : Type} [Field K]

/-- the denominator `total + len/2` of `_distn_from_counts` -/
def denom (counts : List Nat) : K := ((counts.sum : Nat) : K) + ((counts.length : Nat) : K) / ((2 : Nat) : K)

theorem distn_eq (counts : List Nat) :
    (distnFromCounts counts : List K) = counts.map (fun c => (((c : Nat) : K) + half) / denom counts) := rfl

theorem half_eq : (half : K) = 1 / 2 := by simp [half]

theorem distn_length (counts : List Nat) : (distnFromCounts counts : List K).length = counts.length :=
  List.length_map _

theorem sumL_eq_sum (xs : List K) : sumL xs = xs.sum := by
  simp [sumL, foldl_add_eq_sum]

theorem sum_corrected (xs : List Nat) (D : K) :
    (xs.map (fun c => (((c : Nat) : K) + half) / D)).sum =
      (((xs.sum : Nat) : K) + ((xs.length : Nat) : K) / ((2 : Nat) : K)) / D := by
  induction xs with
  | nil => simp
  | cons x xs ih =>
    rw [List.map_cons, List.sum_cons, ih]
    have h3 : ((2 : Nat) : K) = 2 := by norm_num
    simp only [List.sum_cons, List.length_cons, Nat.cast_add, Nat.cast_one, half_eq, h3]
    ring

variable [LinearOrder K] [IsStrictOrderedRing K]

theorem denom_pos {counts : List Nat} (h : counts ≠ []) : 0 < (denom counts : K) :=
  add_pos_of_nonneg_of_pos (Nat.cast_nonneg _)
    (div_pos (Nat.cast_pos.mpr (List.length_pos_iff.mpr h)) (Nat.cast_pos.mpr (Nat.succ_pos 1)))

theorem distn_sum_one {counts : List Nat} (h : counts ≠ []) : sumL (distnFromCounts counts : List K) = 1 := by
  rw [sumL_eq_sum, distn_eq, sum_corrected]
  exact div_self (ne_of_gt (denom_pos h))

theorem distn_pos (counts : List Nat) : ∀ x ∈ (distnFromCounts counts : List K), 0 < x := by
  intro x hx
  rw [distn_eq] at hx
  obtain ⟨c, hc, rfl⟩ := List.mem_map.mp hx
  have hh : (0 : K) < half := by rw [half_eq]; norm_num
  exact div_pos (add_pos_of_nonneg_of_pos (Nat.cast_nonneg _) hh) (denom_pos (List.ne_nil_of_mem hc))

end distn

end MV.Kdq
