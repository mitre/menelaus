/-
  What one update of DDM, EDDM and STEPD does: equations of `core` (the part of `update` after the
  optional reset) in the quantities it computes, of STEPD's window bookkeeping `push` and of the state
  `pre s` an update computes in; per detector one step invariant `Inv` (nothing is reported before the
  warm-up is over), kept by `pre` and `core` (STEPD: by `step`, `step_recs`); from them, for `step`,
  the counters and the local rules `firstRule` / `runRule` that `Lemmas/ErrTrace` turns into trace
  semantics.

  An input `true` is a wrong prediction (STEPD's window holds `!e`).  A name `core_…_eq` is an equation
  for the whole state; `core_<field>`, `core_<case>` and `pre_<field>` read fields; a fact about `step` is
  `step_eq` followed by these (stated for `step` itself: `step_total`, `step_since`, EDDM's `step_nErrors`, STEPD's
  `step_recs`).  Only `step_recs` and the `recs` rule of `firstRule` / `runRule` need `Inv c s`, which
  holds after every history by `(firstRule c).inv_run xs`, STEPD `(runRule c).inv_run xs`; the rest holds
  from any state.  `run c xs` is `ErrTrace.run (step c) init xs` by `rfl` (`run_eq`; STEPD's too): induct
  over a history by `ErrTrace.run_induction`, by `reset_induction` / `epoch_induction` at
  `(step c) init obs … (core c) reset fun _ _ => rfl`, or by `snoc_induction` with `run_snoc`;
  `ddm_epoch` / `eddm_epoch` / `stepd_epoch` say what `total` and `since` are after a history.

  No Mathlib, no arithmetic law: valid for every carrier.
-/
import MenelausVerif.Model.DDM
import MenelausVerif.Model.EDDM
import MenelausVerif.Model.STEPD
import MenelausVerif.Lemmas.ErrTrace
import MenelausVerif.Lemmas.Drift

namespace MV
open MV.ErrTrace

namespace DDM
section pre
variable {α : Type} [NatCast α]

/-- the public observables `drift_state`, `total_samples`, `samples_since_reset`, `retraining_recs` -/
def obs : Obs (State α) := ⟨State.drift, State.total, State.since, State.recs⟩

/-- the state in which `update` computes: `if self.drift_state == "drift": self.reset()` comes first -/
def pre (s : State α) : State α := if s.drift = .drift then reset s else s

theorem pre_total (s : State α) : (pre s).total = s.total := by unfold pre; split <;> rfl
theorem pre_since (s : State α) : (pre s).since = if s.drift = .drift then 0 else s.since := by
  unfold pre; split <;> rfl
theorem pre_drift (s : State α) : (pre s).drift = if s.drift = .drift then .none else s.drift := by
  unfold pre; split <;> rfl
theorem pre_recs (s : State α) : (pre s).recs = if s.drift = .drift then Recs.empty else s.recs := by
  unfold pre; split <;> rfl

end pre

/-- what every update keeps and the properties of whole histories draw on: before the `n_threshold`-th
    sample of an epoch nothing is reported, recommended or stored -/
def Inv {α : Type} (c : Cfg α) (s : State α) : Prop :=
  s.since < c.nThreshold → s.drift = .none ∧ s.recs = Recs.empty ∧ s.mins = none

/-- the warm-up guard: a state other than `None` is reported only from the `n_threshold`-th sample of
    the epoch on -/
theorem Inv.warm {α : Type} {c : Cfg α} {s : State α} (h : Inv c s) (hd : s.drift ≠ .none) : c.nThreshold ≤ s.since :=
  Nat.le_of_not_lt fun hlt => hd (h hlt).1

theorem pre_inv {α : Type} [NatCast α] (c : Cfg α) (s : State α) (h : Inv c s) : Inv c (pre s) := by
  unfold pre; split
  · exact fun _ => ⟨rfl, rfl, rfl⟩
  · exact h

theorem decide3_iff {α : Type} [Add α] [Mul α] [LE α] [DecidableLE α] (c : Cfg α) (rate std pm : α) :
    (decide3 c rate std pm = .drift ↔ pm + c.driftScale * std ≤ rate + std) ∧
    (decide3 c rate std pm = .warning ↔
      ¬ pm + c.driftScale * std ≤ rate + std ∧ pm + c.warningScale * std ≤ rate + std) ∧
    (decide3 c rate std pm = .none ↔
      ¬ pm + c.driftScale * std ≤ rate + std ∧ ¬ pm + c.warningScale * std ≤ rate + std) :=
  Drift.table _ _

section anyCarrier
variable {α : Type} [Add α] [Sub α] [Mul α] [Div α] [LE α] [DecidableLE α] [NatCast α] [HasSqrt α]

theorem step_eq (c : Cfg α) (s : State α) (e : Bool) : step c s e = core c (pre s) e := rfl

theorem run_eq (c : Cfg α) (xs : List Bool) : run c xs = ErrTrace.run (step c) init xs := rfl

theorem run_snoc (c : Cfg α) (xs : List Bool) (e : Bool) : run c (xs ++ [e]) = step c (run c xs) e :=
  ErrTrace.run_snoc xs e

/- the new running rate, std and stored minimum pair (of rate + std) that an update computes -/
def nrate (s : State α) (e : Bool) : α := newRate s.rate (bit e) (s.since + 1)
def nstd (s : State α) (e : Bool) : α := newStd s.std s.rate (nrate s e) (bit e) (s.since + 1)
def nmins (s : State α) (e : Bool) : α × α := newMins s.mins (nrate s e) (nstd s e)

/-- the outcome of the threshold test on them -/
def nflag (c : Cfg α) (s : State α) (e : Bool) : Drift := decide3 c (nrate s e) (nstd s e) (nmins s e).1

/-- one update, field by field: the counters and the running estimates always move; the flag, the
    stored minimum and the recommendation only from the `n_threshold`-th sample of the epoch on -/
theorem core_eq (c : Cfg α) (s : State α) (e : Bool) :
    core c s e =
      { total := s.total + 1, since := s.since + 1, rate := nrate s e, std := nstd s e,
        drift := if s.since + 1 < c.nThreshold then s.drift else nflag c s e,
        mins := if s.since + 1 < c.nThreshold then s.mins else some (nmins s e),
        recs := if s.since + 1 < c.nThreshold then s.recs else incRecsFirst (nflag c s e) s.total s.recs } := by
  unfold core; dsimp only
  split <;> rfl

theorem core_total (c : Cfg α) (s : State α) (e : Bool) : (core c s e).total = s.total + 1 := by
  rw [core_eq]

theorem core_since (c : Cfg α) (s : State α) (e : Bool) : (core c s e).since = s.since + 1 := by
  rw [core_eq]

theorem core_rate (c : Cfg α) (s : State α) (e : Bool) :
    (core c s e).rate = newRate s.rate (bit e) (s.since + 1) := by
  rw [core_eq]; rfl

theorem core_std (c : Cfg α) (s : State α) (e : Bool) :
    (core c s e).std = newStd s.std s.rate (core c s e).rate (bit e) (s.since + 1) := by
  rw [core_eq]; rfl

theorem core_drift (c : Cfg α) (s : State α) (e : Bool) :
    (core c s e).drift = if s.since + 1 < c.nThreshold then s.drift else nflag c s e := by
  rw [core_eq]

theorem core_burnin (c : Cfg α) (s : State α) (e : Bool) (h : s.since + 1 < c.nThreshold) :
    (core c s e).drift = s.drift ∧ (core c s e).mins = s.mins ∧ (core c s e).recs = s.recs := by
  rw [core_eq]; exact ⟨if_pos h, if_pos h, if_pos h⟩

theorem core_tested (c : Cfg α) (s : State α) (e : Bool) (h : c.nThreshold ≤ s.since + 1) :
    (core c s e).mins = some (newMins s.mins (core c s e).rate (core c s e).std) ∧
    (core c s e).drift =
      decide3 c (core c s e).rate (core c s e).std (newMins s.mins (core c s e).rate (core c s e).std).1 ∧
    (core c s e).recs = incRecsFirst (core c s e).drift s.total s.recs := by
  have h := Nat.not_lt.2 h
  rw [core_eq]; dsimp only
  rw [if_neg h, if_neg h, if_neg h]
  exact ⟨rfl, rfl, rfl⟩

theorem step_total (c : Cfg α) (s : State α) (e : Bool) : (step c s e).total = s.total + 1 :=
  (core_total c _ e).trans (congrArg (· + 1) (pre_total s))

theorem step_since (c : Cfg α) (s : State α) (e : Bool) :
    (step c s e).since = (if s.drift = .drift then 0 else s.since) + 1 :=
  (core_since c _ e).trans (congrArg (· + 1) (pre_since s))

theorem counters (c : Cfg α) : Counters (step c) init (obs (α := α)) :=
  ⟨rfl, rfl, rfl, rfl, step_total c, step_since c⟩

/-- **Counters and epochs (every carrier).**  After any history `xs`:
    `total_samples = |xs|`; the last `samples_since_reset` updates are the current
    epoch, which starts right after the latest earlier drift and contains no drift
    before its last position. -/
theorem ddm_epoch (c : Cfg α) (xs : List Bool) : EpochSem (step c) init (obs (α := α)) xs :=
  epochSem _ _ _ (counters c) xs

theorem core_inv (c : Cfg α) (s : State α) (e : Bool) (h : Inv c s) : Inv c (core c s e) := fun hlt => by
  rw [core_since] at hlt
  obtain ⟨h1, h2, h3⟩ := core_burnin c s e hlt
  rw [h1, h2, h3]
  exact h (Nat.lt_of_succ_lt hlt)

theorem firstRule (c : Cfg α) : FirstRule (step c) init (obs (α := α)) (Inv c) where
  inv0 _ := ⟨rfl, rfl, rfl⟩
  inv s e h := core_inv c _ e (pre_inv c s h)
  recs s e h := by
    show (core c (pre s) e).recs =
      incRecsFirst (core c (pre s) e).drift s.total (if s.drift = .drift then Recs.empty else s.recs)
    rw [← pre_recs, ← pre_total]
    by_cases hb : (pre s).since + 1 < c.nThreshold
    · -- inside the burn-in flag and recommendation stay those of `pre s`, where the flag is `None`
      obtain ⟨h1, -, h3⟩ := core_burnin c _ e hb
      rw [h1, h3, (pre_inv c s h (Nat.lt_of_succ_lt hb)).1]
      rfl
    · exact (core_tested c _ e (Nat.not_lt.1 hb)).2.2

end anyCarrier
end DDM

namespace EDDM
section pre
variable {α : Type} [NatCast α]

def obs : Obs (State α) := ⟨State.drift, State.total, State.since, State.recs⟩

def pre (s : State α) : State α := if s.drift = .drift then reset s else s

theorem pre_total (s : State α) : (pre s).total = s.total := by unfold pre; split <;> rfl
theorem pre_since (s : State α) : (pre s).since = if s.drift = .drift then 0 else s.since := by
  unfold pre; split <;> rfl
theorem pre_nErrors (s : State α) : (pre s).nErrors = if s.drift = .drift then 0 else s.nErrors := by
  unfold pre; split <;> rfl
theorem pre_drift (s : State α) : (pre s).drift = if s.drift = .drift then .none else s.drift := by
  unfold pre; split <;> rfl
theorem pre_recs (s : State α) : (pre s).recs = if s.drift = .drift then Recs.empty else s.recs := by
  unfold pre; split <;> rfl

end pre

/-- what every update keeps and the properties of whole histories draw on: before the `n_threshold`-th
    error of an epoch nothing is reported or recommended; and a warning has recorded its index (a correct
    prediction leaves a warning standing, so the recommendation rule must not fire again) -/
def Inv {α : Type} (c : Cfg α) (s : State α) : Prop :=
  (s.nErrors < c.nThreshold → s.drift = .none ∧ s.recs = Recs.empty) ∧ (s.drift = .warning → s.recs.1 ≠ none)

/-- the warm-up guard: a state other than `None` is reported only from the `n_threshold`-th error of
    the epoch on -/
theorem Inv.warm {α : Type} {c : Cfg α} {s : State α} (h : Inv c s) (hd : s.drift ≠ .none) : c.nThreshold ≤ s.nErrors :=
  Nat.le_of_not_lt fun hlt => hd (h.1 hlt).1

theorem pre_inv {α : Type} [NatCast α] (c : Cfg α) (s : State α) (h : Inv c s) : Inv c (pre s) := by
  unfold pre; split
  · exact ⟨fun _ => ⟨rfl, rfl⟩, nofun⟩
  · exact h

theorem decide3_iff {α : Type} [LE α] [DecidableLE α] (c : Cfg α) (ts : α) :
    (decide3 c ts = .drift ↔ ts ≤ c.driftThresh) ∧
    (decide3 c ts = .warning ↔ ¬ ts ≤ c.driftThresh ∧ ts ≤ c.warningThresh) ∧
    (decide3 c ts = .none ↔ ¬ ts ≤ c.driftThresh ∧ ¬ ts ≤ c.warningThresh) :=
  Drift.table _ _

section anyCarrier
variable {α : Type} [Add α] [Sub α] [Mul α] [Div α] [LT α] [DecidableLT α] [LE α] [DecidableLE α]
  [NatCast α] [HasSqrt α]

theorem step_eq (c : Cfg α) (s : State α) (e : Bool) : step c s e = core c (pre s) e := rfl

theorem run_eq (c : Cfg α) (xs : List Bool) : run c xs = ErrTrace.run (step c) init xs := rfl

theorem run_snoc (c : Cfg α) (xs : List Bool) (e : Bool) : run c (xs ++ [e]) = step c (run c xs) e :=
  ErrTrace.run_snoc xs e

theorem core_correct_eq (c : Cfg α) (s : State α) :
    core c s false = { s with total := s.total + 1, since := s.since + 1 } := rfl

/- what an update on an error computes: the distance to the previous error, the new mean and std of the
   distances, and the ratio `(mean + 2 std) / max` that is compared with the thresholds -/
def ndist (s : State α) : α := ((s.since - s.idxCurr : Nat) : α)
def nmean (s : State α) : α := newMean s.distMean (ndist s) (s.nErrors + 1)
def nstd (s : State α) : α := newStd s.distStd s.distMean (nmean s) (ndist s) (s.nErrors + 1)
def nmax (s : State α) : α := newMax s.maxNum (numerator (nmean s) (nstd s))
def ratio (s : State α) : α := numerator (nmean s) (nstd s) / nmax s

/-- an error, field by field: the counters and the running distance estimates always move; the flag,
    the stored maximum and the recommendation only from the `n_threshold`-th error of the epoch on -/
theorem core_error_eq (c : Cfg α) (s : State α) :
    core c s true =
      { total := s.total + 1, since := s.since + 1, nErrors := s.nErrors + 1, idxCurr := s.since,
        distMean := nmean s, distStd := nstd s,
        drift := if s.nErrors + 1 < c.nThreshold then s.drift else decide3 c (ratio s),
        maxNum := if s.nErrors + 1 < c.nThreshold then s.maxNum else nmax s,
        recs := if s.nErrors + 1 < c.nThreshold then s.recs
                else incRecsFirst (decide3 c (ratio s)) s.total s.recs } := by
  unfold core; dsimp only
  rw [if_neg (show ¬ (!true) = true by decide)]
  split <;> rfl

/-- the flag after an update: decided anew on a tested error, else left alone -/
theorem core_drift (c : Cfg α) (s : State α) (e : Bool) :
    (core c s e).drift =
      if e = true ∧ ¬ s.nErrors + 1 < c.nThreshold then decide3 c (ratio s) else s.drift := by
  cases e
  · exact (if_neg fun h => Bool.noConfusion h.1).symm
  · rw [core_error_eq]
    simp only [true_and, ite_not]

theorem core_error (c : Cfg α) (s : State α) :
    (core c s true).total = s.total + 1 ∧ (core c s true).since = s.since + 1 ∧
    (core c s true).nErrors = s.nErrors + 1 ∧ (core c s true).idxCurr = s.since ∧
    (core c s true).distMean =
      newMean s.distMean ((s.since - s.idxCurr : Nat) : α) (s.nErrors + 1) ∧
    (core c s true).distStd =
      newStd s.distStd s.distMean (core c s true).distMean ((s.since - s.idxCurr : Nat) : α)
        (s.nErrors + 1) := by
  rw [core_error_eq]; exact ⟨rfl, rfl, rfl, rfl, rfl, rfl⟩

theorem core_error_burnin (c : Cfg α) (s : State α) (h : s.nErrors + 1 < c.nThreshold) :
    (core c s true).drift = s.drift ∧ (core c s true).maxNum = s.maxNum ∧
    (core c s true).recs = s.recs := by
  rw [core_error_eq]; exact ⟨if_pos h, if_pos h, if_pos h⟩

theorem core_error_tested (c : Cfg α) (s : State α) (h : c.nThreshold ≤ s.nErrors + 1) :
    (core c s true).maxNum =
      newMax s.maxNum (numerator (core c s true).distMean (core c s true).distStd) ∧
    (core c s true).drift =
      decide3 c (numerator (core c s true).distMean (core c s true).distStd / (core c s true).maxNum) ∧
    (core c s true).recs = incRecsFirst (core c s true).drift s.total s.recs := by
  have h := Nat.not_lt.2 h
  rw [core_error_eq]; dsimp only
  rw [if_neg h, if_neg h, if_neg h]
  exact ⟨rfl, rfl, rfl⟩

theorem core_total (c : Cfg α) (s : State α) (e : Bool) : (core c s e).total = s.total + 1 := by
  cases e
  · rfl
  · exact (core_error c s).1

theorem core_since (c : Cfg α) (s : State α) (e : Bool) : (core c s e).since = s.since + 1 := by
  cases e
  · rfl
  · exact (core_error c s).2.1

theorem core_nErrors (c : Cfg α) (s : State α) (e : Bool) :
    (core c s e).nErrors = s.nErrors + (if e = true then 1 else 0) := by
  cases e
  · rfl
  · exact (core_error c s).2.2.1

theorem step_total (c : Cfg α) (s : State α) (e : Bool) : (step c s e).total = s.total + 1 :=
  (core_total c _ e).trans (congrArg (· + 1) (pre_total s))

theorem step_since (c : Cfg α) (s : State α) (e : Bool) :
    (step c s e).since = (if s.drift = .drift then 0 else s.since) + 1 :=
  (core_since c _ e).trans (congrArg (· + 1) (pre_since s))

theorem counters (c : Cfg α) : Counters (step c) init (obs (α := α)) :=
  ⟨rfl, rfl, rfl, rfl, step_total c, step_since c⟩

theorem eddm_epoch (c : Cfg α) (xs : List Bool) : EpochSem (step c) init (obs (α := α)) xs :=
  epochSem _ _ _ (counters c) xs

theorem step_nErrors (c : Cfg α) (s : State α) (e : Bool) :
    (step c s e).nErrors = (if s.drift = .drift then 0 else s.nErrors) + (if e = true then 1 else 0) :=
  (core_nErrors c _ e).trans (congrArg (· + _) (pre_nErrors s))

theorem core_inv (c : Cfg α) (s : State α) (e : Bool) (h : Inv c s) : Inv c (core c s e) := by
  cases e
  · exact h
  · by_cases hb : s.nErrors + 1 < c.nThreshold
    · obtain ⟨h1, -, h3⟩ := core_error_burnin c s hb
      rw [Inv, h1, h3]
      exact ⟨fun _ => h.1 (Nat.lt_of_succ_lt hb), h.2⟩
    · refine ⟨fun hlt => absurd ((core_nErrors c s true) ▸ hlt) hb, fun hw => ?_⟩
      rw [(core_error_tested c s (Nat.not_lt.1 hb)).2.2]
      exact incRecsFirst_fst_ne_none (by rw [hw]; nofun) _ _

theorem firstRule (c : Cfg α) : FirstRule (step c) init (obs (α := α)) (Inv c) where
  inv0 := ⟨fun _ => ⟨rfl, rfl⟩, nofun⟩
  inv s e h := core_inv c _ e (pre_inv c s h)
  recs s e h := by
    obtain ⟨hq, hw⟩ := pre_inv c s h
    show (core c (pre s) e).recs =
      incRecsFirst (core c (pre s) e).drift s.total (if s.drift = .drift then Recs.empty else s.recs)
    rw [← pre_recs, ← pre_total]
    cases e
    · -- a correct prediction leaves flag and recommendation alone; the flag is not `drift` after `pre`
      have hd : (pre s).drift ≠ .drift := by
        rw [pre_drift]; split
        · nofun
        · assumption
      exact (incRecsFirst_eq_self hd hw _).symm
    · by_cases hb : (pre s).nErrors + 1 < c.nThreshold
      · obtain ⟨h1, -, h3⟩ := core_error_burnin c _ hb
        rw [h1, h3, (hq (Nat.lt_of_succ_lt hb)).1]
        rfl
      · exact (core_error_tested c _ (Nat.not_lt.1 hb)).2.2

end anyCarrier
end EDDM

namespace STEPD

def obs : Obs State := ⟨State.drift, State.total, State.since, State.recs⟩

def pre (s : State) : State := if s.drift = .drift then reset s else s

theorem pre_total (s : State) : (pre s).total = s.total := by unfold pre; split <;> rfl
theorem pre_since (s : State) : (pre s).since = if s.drift = .drift then 0 else s.since := by
  unfold pre; split <;> rfl
theorem pre_drift (s : State) : (pre s).drift = if s.drift = .drift then .none else s.drift := by
  unfold pre; split <;> rfl
theorem pre_recs (s : State) : (pre s).recs = if s.drift = .drift then Recs.empty else s.recs := by
  unfold pre; split <;> rfl

theorem push_fields (w : Nat) (s : State) (ok : Bool) :
    (push w s ok).total = s.total + 1 ∧ (push w s ok).since = s.since + 1 ∧
    (push w s ok).drift = s.drift ∧ (push w s ok).recs = s.recs := by
  unfold push; dsimp only
  split
  · split <;> exact ⟨rfl, rfl, rfl, rfl⟩
  · exact ⟨rfl, rfl, rfl, rfl⟩

theorem push_frame (w : Nat) (s : State) (ok : Bool) (d : Drift) (r : Recs) :
    push w { s with drift := d, recs := r } ok = { push w s ok with drift := d, recs := r } := by
  unfold push; dsimp only
  split
  · split <;> rfl
  · rfl

theorem push_frame_total (w : Nat) (s : State) (ok : Bool) (T : Nat) (d : Drift) (r : Recs) :
    push w { s with total := T, drift := d, recs := r } ok =
      { push w s ok with total := T + 1, drift := d, recs := r } := by
  unfold push; dsimp only
  split
  · split <;> rfl
  · rfl

theorem push_of_lt (w : Nat) (s : State) (ok : Bool) (h : s.win.length < w) :
    push w s ok = { s with total := s.total + 1, since := s.since + 1, sIn := s.sIn + b2n ok,
                           win := s.win ++ [ok] } := by
  unfold push; dsimp only
  rw [if_neg (by rw [List.length_append, List.length_singleton]; exact Nat.not_lt.2 h)]

theorem push_of_ge (w : Nat) (s : State) (ok : Bool) (h : w ≤ s.win.length) {hd : Bool} {tl : List Bool}
    (hw : s.win ++ [ok] = hd :: tl) :
    push w s ok = { s with total := s.total + 1, since := s.since + 1,
                           sIn := s.sIn + b2n ok - b2n hd, rPast := s.rPast + b2n hd, win := tl } := by
  unfold push; dsimp only
  rw [if_pos (by rw [List.length_append, List.length_singleton]; exact Nat.lt_succ_of_le h), hw]

/-- what every update keeps and the properties of whole histories draw on: a state other than `None` has
    two full windows behind it, and there is no recommendation while the state is `None` -/
def Inv {α : Type} (c : Cfg α) (s : State) : Prop :=
  (s.drift ≠ .none → 2 * c.window ≤ s.since) ∧ (s.drift = .none → s.recs = Recs.empty)

theorem pre_inv {α : Type} (c : Cfg α) (s : State) (h : Inv c s) : Inv c (pre s) := by
  unfold pre
  split
  · exact ⟨fun h => absurd rfl h, fun _ => rfl⟩
  · exact h

section anyCarrier
variable {α : Type} [Add α] [Sub α] [Mul α] [Div α] [Neg α] [LT α] [DecidableLT α] [NatCast α] [HasSqrt α]

theorem step_eq (c : Cfg α) (s : State) (e : Bool) : step c s e = core c (pre s) e := rfl

theorem run_snoc (c : Cfg α) (xs : List Bool) (e : Bool) : run c (xs ++ [e]) = step c (run c xs) e :=
  ErrTrace.run_snoc xs e

/-- the test on the counters and the window, against the critical value `θ`: the recent accuracy is below
    the past accuracy and the statistic exceeds `θ` -/
abbrev fires (θ : α) (w : Nat) (s : State) : Prop := (recentAcc s : α) < pastAcc s ∧ θ < statistic w s

theorem decide3_eq (c : Cfg α) (s : State) :
    decide3 c s = if fires c.zDrift c.window s then .drift else if fires c.zWarn c.window s then .warning else .none := by
  unfold decide3
  simp only [decide_eq_true_eq]

theorem stepd_decide3 (c : Cfg α) (s : State) :
    (decide3 c s = .drift ↔
      ((recentAcc s : α) < pastAcc s ∧ c.zDrift < statistic c.window s)) ∧
    (decide3 c s = .warning ↔
      (¬ ((recentAcc s : α) < pastAcc s ∧ c.zDrift < statistic c.window s) ∧
       ((recentAcc s : α) < pastAcc s ∧ c.zWarn < statistic c.window s))) ∧
    (decide3 c s = .none ↔
      (¬ ((recentAcc s : α) < pastAcc s ∧ c.zDrift < statistic c.window s) ∧
       ¬ ((recentAcc s : α) < pastAcc s ∧ c.zWarn < statistic c.window s))) := by
  rw [decide3_eq]
  exact Drift.table _ _

theorem core_untested_eq (c : Cfg α) (s : State) (e : Bool) (h : s.since + 1 < 2 * c.window) :
    core c s e = push c.window s (!e) := by
  unfold core; dsimp only
  rw [if_neg (by rw [(push_fields _ _ _).2.1]; exact Nat.not_le.2 h)]

theorem core_tested_eq (c : Cfg α) (s : State) (e : Bool) (h : 2 * c.window ≤ s.since + 1) :
    core c s e = { push c.window s (!e) with
      drift := decide3 c (push c.window s (!e))
      recs := if decide3 c (push c.window s (!e)) = .none then Recs.empty
              else incRecsRun s.total (push c.window s (!e)).recs } := by
  unfold core; dsimp only
  rw [if_pos (by rw [(push_fields _ _ _).2.1]; exact h)]
  cases decide3 c (push c.window s (!e)) <;> rfl

/-- the flag after an update: the outcome of the test once two full windows are there, else left alone -/
theorem core_drift (c : Cfg α) (s : State) (e : Bool) :
    (core c s e).drift =
      if 2 * c.window ≤ s.since + 1 then decide3 c (push c.window s (!e)) else s.drift := by
  split
  · rw [core_tested_eq c s e ‹_›]
  · rw [core_untested_eq c s e (Nat.lt_of_not_le ‹_›)]; exact (push_fields _ _ _).2.2.1

theorem core_window (c : Cfg α) (s : State) (e : Bool) :
    (core c s e).total = s.total + 1 ∧ (core c s e).since = s.since + 1 ∧
    (core c s e).win = (push c.window s (!e)).win ∧ (core c s e).sIn = (push c.window s (!e)).sIn ∧
    (core c s e).rPast = (push c.window s (!e)).rPast := by
  obtain ⟨p1, p2, -, -⟩ := push_fields c.window s (!e)
  by_cases h : 2 * c.window ≤ s.since + 1
  · rw [core_tested_eq c s e h]; exact ⟨p1, p2, rfl, rfl, rfl⟩
  · rw [core_untested_eq c s e (Nat.lt_of_not_le h)]; exact ⟨p1, p2, rfl, rfl, rfl⟩

theorem step_total (c : Cfg α) (s : State) (e : Bool) : (step c s e).total = s.total + 1 :=
  (core_window c _ e).1.trans (congrArg (· + 1) (pre_total s))

theorem step_since (c : Cfg α) (s : State) (e : Bool) :
    (step c s e).since = (if s.drift = .drift then 0 else s.since) + 1 :=
  (core_window c _ e).2.1.trans (congrArg (· + 1) (pre_since s))

theorem counters (c : Cfg α) : Counters (step c) init obs :=
  ⟨rfl, rfl, rfl, rfl, step_total c, step_since c⟩

theorem stepd_epoch (c : Cfg α) (xs : List Bool) : EpochSem (step c) init obs xs :=
  epochSem _ _ _ (counters c) xs

/-- from a state with `Inv`: only a test (two full windows are there) reports a state other than `None`,
    and the recommendation follows STEPD's rule -/
theorem step_recs (c : Cfg α) (s : State) (e : Bool) (hI : Inv c s) :
    ((step c s e).drift ≠ .none → 2 * c.window ≤ (step c s e).since) ∧
    (step c s e).recs =
      if (step c s e).drift = .none then Recs.empty else incRecsRun s.total (pre s).recs := by
  obtain ⟨g1, g2⟩ := pre_inv c s hI
  obtain ⟨-, -, p3, p4⟩ := push_fields c.window (pre s) (!e)
  rw [step_eq]
  by_cases h : 2 * c.window ≤ (pre s).since + 1
  · refine ⟨fun _ => (core_window c (pre s) e).2.1 ▸ h, ?_⟩
    rw [core_tested_eq c _ e h, p4, pre_total]
  · -- not tested, so the state before the update was `None`: a warning has two full windows
    have hn : (pre s).drift = .none := Decidable.by_contra fun hn => h (Nat.le_succ_of_le (g1 hn))
    rw [core_untested_eq c _ e (Nat.lt_of_not_le h), p3, p4, hn, if_pos rfl]
    exact ⟨fun h => absurd rfl h, g2 hn⟩

theorem runRule (c : Cfg α) : RunRule (step c) init obs (Inv c) where
  inv0 := ⟨fun h => absurd rfl h, fun _ => rfl⟩
  inv s e hI := ⟨(step_recs c s e hI).1, fun hn => (step_recs c s e hI).2.trans (if_pos hn)⟩
  recs_none s e hI hn := (step_recs c s e hI).2.trans (if_pos hn)
  recs_some s e hI hn := ((step_recs c s e hI).2.trans (if_neg hn)).trans (congrArg _ (pre_recs s))

end anyCarrier
end STEPD
end MV
