/-
  What the models of several detectors share once the carrier has laws: the operations of Base/Arith.lean
  (`absOf`, `pyMin`, `pyMax`) in Mathlib's terms, and plain list folds written the way the Python code
  writes them (a running `+=`, an incremental mean, counting into bins, a minimum / maximum by
  comparison, insertion sort).  Nothing here mentions a model: a fact about one detector's definitions
  belongs to that detector's lemma file.
-/
import MenelausVerif.Base.Arith
import Mathlib.Algebra.Order.Field.Basic
import Mathlib.Algebra.BigOperators.Group.List.Basic
import Mathlib.Tactic.Ring
namespace MV

theorem foldl_add_eq_sum {M : Type} [AddMonoid M] (a : M) (xs : List M) :
    xs.foldl (· + ·) a = a + xs.sum :=
  List.foldl_eq_apply_foldr

theorem sum_map_div {K : Type} [DivisionRing K] (l : List K) (s : K) :
    (l.map (· / s)).sum = l.sum / s := by
  induction l with
  | nil => simp
  | cons a t ih => simp [ih, add_div]

/-- one step of an incremental mean, in product form: after `m ← m + (x - m) / (n + 1)` the product
    `m * count` has grown by `x` -/
theorem runMean_mul {K : Type} [Field K] [CharZero K] (m x : K) (n : ℕ) :
    (m + (x - m) / ((n + 1 : ℕ) : K)) * ((n + 1 : ℕ) : K) = m * (n : K) + x := by
  rw [add_mul, div_mul_cancel₀ _ (Nat.cast_ne_zero.2 (Nat.succ_ne_zero n)), Nat.cast_succ]
  ring

/-- numpy's uniform-bin rule places `x ∈ [lo, hi]` at `(x - lo) / (hi - lo) * n` on a scale of `n` bins:
    a position between `0` and `n` -/
theorem binScale_bounds {K : Type} [Field K] [LinearOrder K] [IsStrictOrderedRing K] {lo hi x : K} (n : ℕ)
    (hlh : lo < hi) (h1 : lo ≤ x) (h2 : x ≤ hi) :
    0 ≤ (x - lo) / (hi - lo) * (n : K) ∧ (x - lo) / (hi - lo) * (n : K) ≤ n :=
  have hd : 0 < hi - lo := sub_pos.2 hlh
  ⟨mul_nonneg (div_nonneg (sub_nonneg.2 h1) hd.le) (Nat.cast_nonneg _),
    mul_le_of_le_one_left (Nat.cast_nonneg _) ((div_le_one hd).2 (sub_le_sub_right h2 lo))⟩

theorem sum_indicator_range (a n : Nat) :
    ((List.range n).map (fun k => if a = k then 1 else 0)).sum = if a < n then 1 else 0 := by
  induction n with
  | zero => rfl
  | succ n ih =>
    rw [List.range_succ, List.map_append, List.sum_append, ih]
    by_cases h : a < n
    · simp [h, Nat.ne_of_lt h, Nat.lt_succ_of_lt h]
    · by_cases h2 : a = n
      · simp [h2]
      · have h' : ¬ a < n + 1 := by omega
        simp [h, h2, h']

/-- counting a list of indices below `n` into `n` bins loses none: the bin counts add up to its length -/
theorem count_sum (n : Nat) (l : List Nat) (h : ∀ i ∈ l, i < n) :
    ((List.range n).map (fun k => l.count k)).sum = l.length := by
  induction l with
  | nil => simp
  | cons a l ih =>
    have e : (fun k => (a :: l).count k) = (fun k => l.count k + (if a = k then 1 else 0)) := by
      funext k; simp only [List.count_cons, beq_iff_eq]
    rw [e, List.sum_map_add, ih (fun i hi => h i (List.mem_cons_of_mem _ hi)), sum_indicator_range,
      if_pos (h a List.mem_cons_self), List.length_cons]

theorem absOf_eq_abs {K : Type} [Ring K] [LinearOrder K] [IsOrderedRing K] (x : K) : absOf x = |x| := by
  unfold absOf
  rw [Nat.cast_zero]
  split
  · rename_i h; exact (abs_of_neg h).symm
  · rename_i h; exact (abs_of_nonneg (not_lt.mp h)).symm

section order
variable {α : Type} [LinearOrder α]

theorem pyMin_eq_min (a b : α) : pyMin a b = min a b := by
  unfold pyMin
  split
  · rename_i h; exact (min_eq_right h.le).symm
  · rename_i h; exact (min_eq_left (not_lt.mp h)).symm

theorem pyMax_eq_max (a b : α) : pyMax a b = max a b := by
  unfold pyMax
  split
  · rename_i h; exact (max_eq_right h.le).symm
  · rename_i h; exact (max_eq_left (not_lt.mp h)).symm

theorem pyMin_pick (a b : α) : (pyMin a b = a ∨ pyMin a b = b) ∧ pyMin a b ≤ a ∧ pyMin a b ≤ b := by
  rw [pyMin_eq_min]
  exact ⟨min_choice a b, min_le_left a b, min_le_right a b⟩

theorem pyMax_pick (a b : α) : (pyMax a b = a ∨ pyMax a b = b) ∧ a ≤ pyMax a b ∧ b ≤ pyMax a b := by
  rw [pyMax_eq_max]
  exact ⟨max_choice a b, le_max_left a b, le_max_right a b⟩

end order

/-- Folding an operation that picks the `r`-smaller of its two arguments yields an `r`-least element of
    the list (with `r := (· ≤ ·)` and `pyMin` a minimum, with `r := (· ≥ ·)` and `pyMax` a maximum). -/
theorem foldl_pick_spec {α : Type} {r : α → α → Prop} (hrefl : ∀ a, r a a)
    (htrans : ∀ a b c, r a b → r b c → r a c) {f : α → α → α}
    (hf : ∀ a b, (f a b = a ∨ f a b = b) ∧ r (f a b) a ∧ r (f a b) b) (xs : List α) (x : α) :
    xs.foldl f x ∈ x :: xs ∧ ∀ y ∈ x :: xs, r (xs.foldl f x) y := by
  induction xs generalizing x with
  | nil => exact ⟨List.mem_singleton.2 rfl, fun y hy => List.mem_singleton.1 hy ▸ hrefl x⟩
  | cons z zs ih =>
    obtain ⟨h1, h2⟩ := ih (f x z)
    obtain ⟨hm, hx, hz⟩ := hf x z
    rw [List.forall_mem_cons] at h2
    refine ⟨?_, List.forall_mem_cons.2 ⟨htrans _ _ _ h2.1 hx,
      List.forall_mem_cons.2 ⟨htrans _ _ _ h2.1 hz, h2.2⟩⟩⟩
    rcases List.mem_cons.1 h1 with h | h
    · rw [List.foldl_cons, h]
      rcases hm with e | e <;> simp [e]
    · exact List.mem_cons_of_mem _ (List.mem_cons_of_mem _ h)

/-- An `r`-least element that is attained is determined by the members of the list: a function that
    picks one gives the same value on a permuted list. -/
theorem extremum_perm {α : Type} {r : α → α → Prop} (hanti : ∀ a b, r a b → r b a → a = b)
    {m : List α → α} (hm : ∀ l, l ≠ [] → m l ∈ l ∧ ∀ y ∈ l, r (m l) y) {l l' : List α}
    (h : l.Perm l') : m l = m l' := by
  by_cases hne : l = []
  · subst hne; rw [h.symm.eq_nil]
  · have hne' : l' ≠ [] := fun e => hne (by subst e; exact h.eq_nil)
    obtain ⟨m1, m2⟩ := hm l hne
    obtain ⟨n1, n2⟩ := hm l' hne'
    exact hanti _ _ (m2 _ (h.mem_iff.mpr n1)) (n2 _ (h.mem_iff.mp m1))

/-- Insertion sort as a `foldr` of an insert function given by its two equations: inserting before the
    first larger element permutes and keeps ascending order, so the fold sorts. -/
theorem insertionSort_spec {K : Type} [LinearOrder K] {ins : K → List K → List K}
    (h0 : ∀ x, ins x [] = [x])
    (h1 : ∀ x y ys, ins x (y :: ys) = if x < y then x :: y :: ys else y :: ins x ys) :
    ∀ l : List K, (l.foldr ins []).Perm l ∧ (l.foldr ins []).Pairwise (· ≤ ·) := by
  have hp : ∀ x l, (ins x l).Perm (x :: l) := by
    intro x l
    induction l with
    | nil => rw [h0]
    | cons y ys ih =>
      rw [h1]; split
      · exact .refl _
      · exact (ih.cons y).trans (.swap x y ys)
  have hs : ∀ x l, l.Pairwise (· ≤ ·) → (ins x l).Pairwise (· ≤ ·) := by
    intro x l h
    induction l with
    | nil => rw [h0]; exact List.pairwise_singleton _ _
    | cons y ys ih =>
      obtain ⟨hy, hys⟩ := List.pairwise_cons.mp h
      rw [h1]; split
      · rename_i hxy
        refine List.pairwise_cons.mpr ⟨fun z hz => ?_, h⟩
        rcases List.mem_cons.mp hz with rfl | hz
        exacts [hxy.le, hxy.le.trans (hy z hz)]
      · rename_i hxy
        refine List.pairwise_cons.mpr ⟨fun z hz => ?_, ih hys⟩
        rcases List.mem_cons.mp ((hp x ys).mem_iff.mp hz) with rfl | hz
        exacts [not_lt.mp hxy, hy z hz]
  intro l
  induction l with
  | nil => exact ⟨.refl _, .nil⟩
  | cons x xs ih => exact ⟨(hp x _).trans (ih.1.cons x), hs x _ ih.2⟩

end MV
