/-
  ADWIN's statistics over a field.  A chunk of the window is summarised by (size n, S = sum, Q = sum of squares),
  with Σ(x − x̄)² = Q − S²/n (`dev_eq`); the add-one update, the Chan merge of two equal-size chunks and the removal of
  the oldest chunk are field identities on such triples.  `Good` ties the traversal list of `Lemmas/AdwinStruct.lean`
  to the chunks it summarises, `FInv` a state to its window; `finv_afterAdd` and `finv_removeLast` are the two
  operations of an update on it (`Merges.good`: a cascade of merges keeps the window), `finv_step` is the update.
-/
import MenelausVerif.Lemmas.AdwinStruct
import MenelausVerif.Lemmas.Carrier
import Mathlib.Tactic.FieldSimp
import Mathlib.Tactic.LinearCombination
namespace MV.Adwin

variable {K : Type} [Field K]

def sqs (l : List K) : K := (l.map (fun x => x * x)).sum

@[simp] theorem sqs_cons (x : K) (l : List K) : sqs (x :: l) = x * x + sqs l := by simp [sqs]
@[simp] theorem sqs_append (a b : List K) : sqs (a ++ b) = sqs a + sqs b := by simp [sqs]

def dev (l : List K) : K := (l.map (fun x => (x - l.sum / (l.length : K)) * (x - l.sum / (l.length : K)))).sum

theorem sum_sq_sub (l : List K) (m : K) :
    (l.map (fun x => (x - m) * (x - m))).sum = sqs l - 2 * m * l.sum + (l.length : K) * m * m := by
  induction l with
  | nil => simp [sqs]
  | cons x l ih => simp only [List.map_cons, List.sum_cons, sqs_cons, List.length_cons, Nat.cast_succ, ih]; ring

theorem dev_eq (l : List K) : dev l = sqs l - l.sum ^ 2 / (l.length : K) := by
  unfold dev
  rw [sum_sq_sub]
  by_cases h : (l.length : K) = 0
  · rw [h]; simp
  · linear_combination (l.sum / (l.length : K)) * mul_div_cancel₀ l.sum h

/-- bucket `b = (total, variance)` summarises the chunk `l` of `n` samples exactly -/
def Exact (n : Nat) (b : K × K) (l : List K) : Prop :=
  l.length = n ∧ b.1 = l.sum ∧ b.2 = sqs l - l.sum ^ 2 / (n : K)

/-- the traversal list (oldest bucket first) summarises the consecutive chunks `cs` -/
def Good : List (Nat × Bucket K) → List (List K) → Prop
  | [], [] => True
  | e :: fl, l :: cs => Exact (2 ^ e.1) e.2 l ∧ Good fl cs
  | _, _ => False

theorem good_nil_left (cs : List (List K)) : Good [] cs ↔ cs = [] := by
  cases cs <;> simp [Good]

theorem good_cons_left (e : Nat × Bucket K) (fl) (cs : List (List K)) :
    Good (e :: fl) cs ↔ ∃ l cs', cs = l :: cs' ∧ Exact (2 ^ e.1) e.2 l ∧ Good fl cs' := by
  cases cs with
  | nil => simp [Good]
  | cons l cs' => simp [Good]

theorem good_iff {fl : List (Nat × Bucket K)} {cs : List (List K)} :
    Good fl cs ↔ List.Forall₂ (fun e l => Exact (2 ^ e.1) e.2 l) fl cs := by
  induction fl generalizing cs with
  | nil => rw [good_nil_left, List.forall₂_nil_left_iff]
  | cons e fl ih =>
    cases cs with
    | nil => exact ⟨False.elim, fun h => nomatch h⟩
    | cons l cs => rw [List.forall₂_cons, ← ih]; rfl

theorem good_append {a b : List (Nat × Bucket K)} {ca cb : List (List K)} (ha : Good a ca) (hb : Good b cb) :
    Good (a ++ b) (ca ++ cb) :=
  good_iff.mpr (List.rel_append (good_iff.mp ha) (good_iff.mp hb))

theorem good_take {fl : List (Nat × Bucket K)} {cs : List (List K)} (h : Good fl cs) (m : Nat) :
    Good (fl.take m) (cs.take m) :=
  good_iff.mpr (List.forall₂_take m (good_iff.mp h))

theorem good_split {a b : List (Nat × Bucket K)} {cs : List (List K)} (h : Good (a ++ b) cs) :
    ∃ ca cb, cs = ca ++ cb ∧ Good a ca ∧ Good b cb :=
  ⟨cs.take a.length, cs.drop a.length, (List.take_append_drop ..).symm,
    good_iff.mpr (by simpa using List.forall₂_take a.length (good_iff.mp h)),
    good_iff.mpr (by simpa using List.forall₂_drop a.length (good_iff.mp h))⟩

theorem good_length {fl : List (Nat × Bucket K)} {cs : List (List K)} (h : Good fl cs) :
    cs.flatten.length = sizeOf fl := by
  replace h := good_iff.mp h
  induction h with
  | nil => rfl
  | cons he _ ih => simp [ih, he.1]

theorem good_totals {fl : List (Nat × Bucket K)} {cs : List (List K)} (h : Good fl cs) :
    (fl.map (fun e => e.2.1)).sum = cs.flatten.sum := by
  replace h := good_iff.mp h
  induction h with
  | nil => rfl
  | cons he _ ih => simp [ih, he.2.1]

theorem accT0_eq (t0 : K) (pre : List (Nat × Bucket K)) :
    accT0 t0 pre = t0 + (pre.map (fun e => e.2.1)).sum := by
  rw [accT0, ← foldl_add_eq_sum, List.foldl_map]

theorem accT1_eq (t1 : K) (pre : List (Nat × Bucket K)) :
    accT1 t1 pre = t1 - (pre.map (fun e => e.2.1)).sum := by
  unfold accT1
  induction pre generalizing t1 with
  | nil => simp
  | cons e pre ih => rw [List.foldl_cons, ih, List.map_cons, List.sum_cons, sub_sub]

/-- the older part accumulated by a scan up to a bucket boundary is a prefix of the window -/
theorem good_prefix {fl : List (Nat × Bucket K)} {cs : List (List K)} (h : Good fl cs) (m : Nat) :
    ((fl.take m).map (fun e => e.2.1)).sum = (cs.flatten.take (sizeOf (fl.take m))).sum := by
  have ht := good_take h m
  rw [good_totals ht, ← good_length ht]
  congr 1
  conv_rhs => rw [← List.take_append_drop m cs, List.flatten_append]
  simp

/-- `win` is the window of the state: the buckets (oldest first) summarise consecutive chunks of
    `win` of sizes `2^row`, and the running total / variance are those of `win` -/
structure FInv (s : State K) (win : List K) : Prop where
  good : ∃ cs, Good (flat s.rows) cs ∧ cs.flatten = win
  len : win.length = s.W
  sum : s.sum = win.sum
  var : s.var = sqs win - win.sum ^ 2 / (s.W : K)

theorem finv_init : FInv (init : State K) [] :=
  { good := ⟨[], by simp [init, flat, Good], rfl⟩, len := rfl, sum := by simp [init], var := by simp [init, sqs] }

/- From here on the order is used: for `0 ≤ dev l`, and as the source of characteristic zero in the identities. -/
variable [LinearOrder K] [IsStrictOrderedRing K]

set_option linter.unusedSectionVars false in
@[simp] theorem sqs_nil : sqs ([] : List K) = 0 := rfl

theorem dev_nonneg (l : List K) : 0 ≤ dev l := by
  unfold dev
  generalize l.sum / (l.length : K) = m
  induction l with
  | nil => exact le_refl _
  | cons x l ih => rw [List.map_cons, List.sum_cons]; exact add_nonneg (mul_self_nonneg _) ih

section identities
variable (n w : Nat) (hn : 1 ≤ n) (hw : 1 ≤ w) (S0 Q0 S1 Q1 S Q x : K)
include hn

/-- add-one update of `_add_sample` -/
theorem add_one_identity :
    (Q - S ^ 2 / (n : K)) + ((n : K)) * (x - S / (n : K)) * (x - S / (n : K)) / ((n + 1 : Nat) : K)
      = (Q + x * x) - (S + x) ^ 2 / ((n + 1 : Nat) : K) := by
  have h1 : (n : K) ≠ 0 := Nat.cast_ne_zero.mpr (by omega)
  have h2 : (n : K) + 1 ≠ 0 := Nat.cast_add_one_ne_zero n
  push_cast
  field_simp
  ring

/-- Chan merge of two chunks of equal size -/
theorem chan_identity :
    (Q0 - S0 ^ 2 / (n : K)) + (Q1 - S1 ^ 2 / (n : K))
        + (n : K) * (S0 / (n : K) - S1 / (n : K)) * (S0 / (n : K) - S1 / (n : K)) / ((2 : Nat) : K)
      = (Q0 + Q1) - (S0 + S1) ^ 2 / ((n + n : Nat) : K) := by
  have h1 : (n : K) ≠ 0 := Nat.cast_ne_zero.mpr (by omega)
  push_cast
  field_simp
  ring

include hw in
/-- removal of the oldest chunk (size `n`) from a window that keeps `w` samples -/
theorem remove_identity :
    ((Q0 + Q) - (S0 + S) ^ 2 / ((n + w : Nat) : K))
        - ((Q0 - S0 ^ 2 / (n : K))
            + ((n * w : Nat) : K) * (S0 / (n : K) - S / (w : K)) * (S0 / (n : K) - S / (w : K)) / ((n + w : Nat) : K))
      = Q - S ^ 2 / (w : K) := by
  have h1 : (n : K) ≠ 0 := Nat.cast_ne_zero.mpr (by omega)
  have h2 : (w : K) ≠ 0 := Nat.cast_ne_zero.mpr (by omega)
  have h3 : (n : K) + (w : K) ≠ 0 := by exact_mod_cast (by omega : n + w ≠ 0)
  push_cast
  field_simp
  ring

end identities

theorem exact_merge (i : Nat) (b0 b1 : Bucket K) (l0 l1 : List K)
    (h0 : Exact (2 ^ i) b0 l0) (h1 : Exact (2 ^ i) b1 l1) :
    Exact (2 ^ (i + 1)) (merge i b0 b1) (l0 ++ l1) := by
  obtain ⟨a0, a1, a2⟩ := h0
  obtain ⟨c0, c1, c2⟩ := h1
  have e : 2 ^ (i + 1) = 2 ^ i + 2 ^ i := by rw [Nat.pow_succ, Nat.mul_two]
  refine ⟨by rw [List.length_append, a0, c0, e], by rw [List.sum_append, ← a1, ← c1]; rfl, ?_⟩
  show b0.2 + b1.2 + _ = _
  rw [a1, a2, c1, c2, List.sum_append, sqs_append, e]
  exact chan_identity (2 ^ i) Nat.one_le_two_pow l0.sum (sqs l0) l1.sum (sqs l1)

theorem Merges.good {a b : List (Nat × Bucket K)} (h : Merges a b) :
    ∀ cs, Good a cs → ∃ cs', Good b cs' ∧ cs'.flatten = cs.flatten := by
  induction h with
  | refl fl => intro cs h; exact ⟨cs, h, rfl⟩
  | step A B i b0 b1 fl _ ih =>
    intro cs h
    obtain ⟨ca, cb, rfl, hA, hB⟩ := good_split h
    rw [good_cons_left] at hB
    obtain ⟨l0, cs1, rfl, e0, hB⟩ := hB
    rw [good_cons_left] at hB
    obtain ⟨l1, cs2, rfl, e1, hB⟩ := hB
    have hg : Good (A ++ (i + 1, merge i b0 b1) :: B) (ca ++ (l0 ++ l1) :: cs2) :=
      good_append hA ⟨exact_merge i b0 b1 l0 l1 e0 e1, hB⟩
    obtain ⟨cs', h1, h2⟩ := ih _ hg
    exact ⟨cs', h1, by rw [h2]; simp⟩

theorem FInv.var_nonneg {s : State K} {win : List K} (hf : FInv s win) : 0 ≤ s.var := by
  rw [hf.var, ← hf.len, ← dev_eq]
  exact dev_nonneg win

/-- the sample's addition (`_window_size += 1`, `_add_sample`) -/
theorem finv_afterAdd (c : Cfg K) (s : State K) (win : List K) (hf : FInv s win) (x : K) :
    FInv (afterAdd c s x) (win ++ [x]) := by
  obtain ⟨cs, hgood, hfl⟩ := hf.good
  obtain ⟨cs', h1, h2⟩ := (merges_addSample c.maxBuckets s.rows x).good _
    (good_append hgood (cb := [[x]]) ⟨⟨rfl, (add_zero x).symm, by simp [sqs]; ring⟩, trivial⟩)
  rw [afterAdd_eq]
  refine ⟨⟨cs', h1, by rw [h2, List.flatten_append, hfl]; rfl⟩, ?_, ?_, ?_⟩
  · rw [List.length_append, hf.len]; rfl
  · show s.sum + x = _
    rw [List.sum_append, hf.sum, List.sum_singleton]
  · dsimp only
    rw [sqs_append, List.sum_append, List.sum_singleton, sqs_cons, sqs_nil, add_zero, hf.var, hf.sum]
    split
    · next h => exact add_one_identity s.W h win.sum (sqs win) x
    · -- the first sample of a window
      have : win = [] := List.length_eq_zero_iff.mp (by rw [hf.len]; omega)
      subst this
      rw [show s.W = 0 by omega]
      simp; ring

/-- `_remove_last` of an oldest bucket smaller than the window -/
theorem finv_removeLast (s : State K) (win : List K) (hsh : Shape s.rows s.W) (hf : FInv s win)
    {e : Nat × Bucket K} {rest : List (Nat × Bucket K)} (hfl : flat s.rows = e :: rest)
    (hlt : 2 ^ e.1 < s.W) : FInv (removeLast s) (win.drop (2 ^ e.1)) := by
  obtain ⟨rfl, -, h2, h3⟩ := shape_removeLast s hsh hfl hlt
  replace hlt : 2 ^ (s.rows.length - 1) < s.W := hlt
  obtain ⟨cs, hgood, hflat⟩ := hf.good
  rw [hfl, good_cons_left] at hgood
  obtain ⟨l0, cs', rfl, ⟨e0, e1, e2⟩, hg⟩ := hgood
  simp only at e0 e1 e2
  have hwin : win = l0 ++ cs'.flatten := by rw [← hflat, List.flatten_cons]
  have hlen' : cs'.flatten.length = s.W - 2 ^ (s.rows.length - 1) := by
    have := hf.len; rw [hwin, List.length_append, e0] at this; omega
  have hW : 2 ^ (s.rows.length - 1) + (s.W - 2 ^ (s.rows.length - 1)) = s.W := by omega
  rw [hwin, ← e0, List.drop_left]
  refine ⟨⟨cs', by rw [h2]; exact hg, rfl⟩, by rw [h3]; exact hlen', ?_, ?_⟩
  · show s.sum - (oldest s.rows).1 = _
    rw [hf.sum, hwin, e1, List.sum_append, add_sub_cancel_left]
  · have hid := remove_identity (2 ^ (s.rows.length - 1)) (s.W - 2 ^ (s.rows.length - 1)) Nat.one_le_two_pow
      (by omega) l0.sum (sqs l0) cs'.flatten.sum (sqs cs'.flatten)
    rw [hW] at hid
    show s.var - ((oldest s.rows).2 + _) = _
    rw [hf.var, hf.sum, hwin, e1, e2, List.sum_append, sqs_append, add_sub_cancel_left, hW]
    exact hid

/-- one update keeps `FInv`, for the window `win ++ [x]` less the `m` samples of the dropped buckets -/
theorem finv_step [HasSqrt K] [HasLogExp K] (c : Cfg K) (hsub : 1 ≤ c.subThresh) (s : State K) (hs : SInv s)
    (win : List K) (hf : FInv s win) (x : K) :
    ∃ m, FInv (step c s x) ((win ++ [x]).drop m) ∧ m + (step c s x).W = s.W + 1 := by
  rw [step_eq, ← afterAdd_W c s x]
  refine (shrink_induction c (fun s' => Shape s'.rows s'.W ∧
    ∃ m, FInv s' ((win ++ [x]).drop m) ∧ m + s'.W = (afterAdd c s x).W) ?_ _
    ⟨(sinv_afterAdd c s hs x).shape, 0, finv_afterAdd c s win hf x, Nat.zero_add _⟩).2
  rintro s' ⟨hsh, m, hf', hm⟩ hh
  obtain ⟨e, rest, hfl, hb, h1, -, h3⟩ := hit_cut c hsub s' hsh hh
  have h := finv_removeLast s' _ hsh hf' hfl (by omega)
  rw [List.drop_drop] at h
  -- `cut` differs from `removeLast` in `drift` and `recs` only, which `FInv` does not read
  exact ⟨h1, m + 2 ^ e.1, ⟨h.good, h.len, h.sum, h.var⟩, by rw [h3]; omega⟩

end MV.Adwin
