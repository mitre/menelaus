/-
  One update of the kdq-tree detectors of `Model/KdqDetect.lean`, for every carrier and without Mathlib.

  Streaming: `sStep` is `sEvaluate` on the state after the reset-if-drift (`sPre`) and the counting of the
  sample (`sTick`); `sEvaluate` has four kinds of outcome (`SStepped`).  `since` counts from the last reset, and
  the update that completes the reference window (`.built`) resets it to 0: it is not `+ 1` on every update, as
  `total` is (`sStep_total`).  Batch: `bStep` is the pending-drift branch (`bPre`) followed by counting and
  evaluation (`bCore`); its `m` is the number of columns, passed explicitly as to `Kdq.build` (`bPre` and `bCore`
  take it before the state).  `BState.refData` is not the reference (that is `tree`) but the batch remembered at a
  drift for the next update to adopt: only a batch that exceeds the critical value writes it (`bCore_test`),
  `bSetRef` never does.
-/
import MenelausVerif.Model.KdqDetect
namespace MV.KdqDet
open MV MV.Kdq

section state
variable {α : Type}

/-- `update` begins with `if self.drift_state == "drift": self.reset()` -/
def sPre (s : SState α) : SState α := if s.drift = .drift then sReset s else s

theorem sPre_of_drift {s : SState α} (h : s.drift = .drift) : sPre s = sReset s := if_pos h

theorem sPre_of_not_drift {s : SState α} (h : s.drift ≠ .drift) : sPre s = s := if_neg h

theorem sPre_not_drift (s : SState α) : (sPre s).drift ≠ .drift := by
  by_cases h : s.drift = .drift
  · rw [sPre_of_drift h]; nofun
  · rwa [sPre_of_not_drift h]

theorem sPre_fields (s : SState α) :
    (sPre s).tree = (if s.drift = .drift then none else s.tree) ∧
    (sPre s).refData = (if s.drift = .drift then [] else s.refData) ∧
    (sPre s).since = (if s.drift = .drift then 0 else s.since) ∧
    (sPre s).testSize = (if s.drift = .drift then 0 else s.testSize) ∧
    (sPre s).total = s.total ∧ (sPre s).drift = (if s.drift = .drift then .none else s.drift) := by
  unfold sPre; split <;> exact ⟨rfl, rfl, rfl, rfl, rfl, rfl⟩

/-- `total_samples += 1`, `samples_since_reset += 1` -/
def sTick (s : SState α) : SState α := { s with total := s.total + 1, since := s.since + 1 }

end state

section stream
variable {α : Type} [Inhabited α] [Add α] [Sub α] [Mul α] [Div α] [LT α] [DecidableLT α]
  [LE α] [DecidableLE α] [NatCast α] [BEq α] [HasLogExp α] [HasRint α] [HasTrunc α]

section evaluate
variable (c : SCfg α) (s : SState α) (x : List α) (d : List (List Nat))

theorem sStep_eq : sStep c s x d = sEvaluate c (sTick (sPre s)) x d := rfl

theorem sEvaluate_building (ht : s.tree = none) (hw : s.refData.length + 1 ≠ c.window) :
    sEvaluate c s x d = some ({ s with refData := s.refData ++ [x] }, .building) := by
  simp [sEvaluate, ht, hw]

theorem sEvaluate_built (ht : s.tree = none) (hw : s.refData.length + 1 = c.window) :
    sEvaluate c s x d = (build c.part x.length (s.refData ++ [x])).map fun t =>
      ({ sReset s with tree := some t,
                       critical := some (criticalKld (leafCountsD t 0).length c.window d c.alpha) }, .built) := by
  simp only [sEvaluate, ht, List.length_append, List.length_singleton, hw, if_true]
  cases build c.part x.length (s.refData ++ [x]) <;> rfl

theorem sEvaluate_waiting (t : Kdq.Tree α) (ht : s.tree = some t) (hw : s.testSize + 1 < c.window) :
    sEvaluate c s x d =
      some ({ s with tree := some (fill testId false [x] t), testSize := s.testSize + 1 }, .waiting) := by
  simp [sEvaluate, ht, Nat.not_le.mpr hw]

theorem sEvaluate_eval (t : Kdq.Tree α) (ht : s.tree = some t) (hw : c.window ≤ s.testSize + 1) :
    sEvaluate c s x d =
      some ({ s with tree := some (fill testId false [x] t), testSize := s.testSize + 1,
                     testDist := some (divergence (fill testId false [x] t)),
                     counter := if decide (s.critical.getD default < divergence (fill testId false [x] t))
                                then s.counter + 1 else 0,
                     drift := if decide (s.critical.getD default < divergence (fill testId false [x] t))
                                 && alarms c (s.counter + 1) then .drift else s.drift },
            .eval (decide (s.critical.getD default < divergence (fill testId false [x] t)))) := by
  simp only [sEvaluate, ht, hw, if_true]
  by_cases hex : s.critical.getD default < divergence (fill testId false [x] t) <;> simp [hex]

/-- `sEvaluate` neither reads nor writes `total` -/
theorem sEvaluate_total_frame (f : Nat → Nat) :
    sEvaluate c { s with total := f s.total } x d =
      (sEvaluate c s x d).map fun r => ({ r.1 with total := f r.1.total }, r.2) := by
  rcases Option.eq_none_or_eq_some s.tree with ht | ⟨t, ht⟩
  · by_cases hw : s.refData.length + 1 = c.window
    · rw [sEvaluate_built c s x d ht hw, sEvaluate_built c { s with total := f s.total } x d ht hw, Option.map_map]
      rfl
    · rw [sEvaluate_building c s x d ht hw, sEvaluate_building c { s with total := f s.total } x d ht hw]; rfl
  · by_cases hw : c.window ≤ s.testSize + 1
    · rw [sEvaluate_eval c s x d t ht hw, sEvaluate_eval c { s with total := f s.total } x d t ht hw]; rfl
    · rw [sEvaluate_waiting c s x d t ht (Nat.lt_of_not_le hw),
        sEvaluate_waiting c { s with total := f s.total } x d t ht (Nat.lt_of_not_le hw)]
      rfl

end evaluate

theorem sStep_quiet (c : SCfg α) {s : SState α} (x : List α) (d : List (List Nat)) (h : s.drift ≠ .drift) :
    sStep c s x d = sEvaluate c (sTick s) x d := by
  rw [sStep_eq, sPre_of_not_drift h]

/-- the four kinds of streaming update with the state each leaves; `p` is the state `sEvaluate`
    starts from, for `sStep` the one after the reset-if-drift and the counting of the sample -/
inductive SStepped (c : SCfg α) (p : SState α) (x : List α) (d : List (List Nat)) : SState α → Ev → Prop
  | building (ht : p.tree = none) (hw : p.refData.length + 1 ≠ c.window) :
      SStepped c p x d { p with refData := p.refData ++ [x] } .building
  | built {t : Kdq.Tree α} (ht : p.tree = none) (hw : p.refData.length + 1 = c.window)
      (hb : build c.part x.length (p.refData ++ [x]) = some t) :
      SStepped c p x d
        { sReset p with tree := some t,
                        critical := some (criticalKld (leafCountsD t 0).length c.window d c.alpha) } .built
  | waiting {t : Kdq.Tree α} (ht : p.tree = some t) (hw : p.testSize + 1 < c.window) :
      SStepped c p x d { p with tree := some (fill testId false [x] t), testSize := p.testSize + 1 } .waiting
  | eval {t : Kdq.Tree α} (ht : p.tree = some t) (hw : c.window ≤ p.testSize + 1) :
      SStepped c p x d
        { p with tree := some (fill testId false [x] t), testSize := p.testSize + 1,
                 testDist := some (divergence (fill testId false [x] t)),
                 counter := if decide (p.critical.getD default < divergence (fill testId false [x] t))
                            then p.counter + 1 else 0,
                 drift := if decide (p.critical.getD default < divergence (fill testId false [x] t))
                             && alarms c (p.counter + 1) then .drift else p.drift }
        (.eval (decide (p.critical.getD default < divergence (fill testId false [x] t))))

theorem sEvaluate_cases {c : SCfg α} {p s' : SState α} {x : List α} {d : List (List Nat)} {ev : Ev}
    (h : sEvaluate c p x d = some (s', ev)) : SStepped c p x d s' ev := by
  cases ht : p.tree with
  | none =>
    by_cases hw : p.refData.length + 1 = c.window
    · rw [sEvaluate_built c p x d ht hw] at h
      obtain ⟨t, hb, e⟩ := Option.map_eq_some_iff.mp h
      cases e; exact .built ht hw hb
    · rw [sEvaluate_building c p x d ht hw] at h; cases h; exact .building ht hw
  | some t =>
    by_cases hw : c.window ≤ p.testSize + 1
    · rw [sEvaluate_eval c p x d t ht hw] at h; cases h; exact .eval ht hw
    · rw [sEvaluate_waiting c p x d t ht (by omega)] at h; cases h; exact .waiting ht (by omega)

theorem sStep_cases {c : SCfg α} {s s' : SState α} {x : List α} {d : List (List Nat)} {ev : Ev}
    (h : sStep c s x d = some (s', ev)) : SStepped c (sTick (sPre s)) x d s' ev :=
  sEvaluate_cases h

theorem sStep_pre (c : SCfg α) (s : SState α) (x : List α) (d : List (List Nat)) :
    sStep c (sPre s) x d = sStep c s x d := sStep_quiet c x d (sPre_not_drift s)

theorem sStep_total {c : SCfg α} {s s' : SState α} {x : List α} {d : List (List Nat)} {ev : Ev}
    (h : sStep c s x d = some (s', ev)) : s'.total = s.total + 1 := by
  have hp : (sTick (sPre s)).total = s.total + 1 := congrArg (· + 1) (sPre_fields s).2.2.2.2.1
  cases sStep_cases h <;> exact hp

/-- run a list of samples (each with the bootstrap draws its update would consume), collecting
    what every update did -/
def sRun (c : SCfg α) : SState α → List (List α × List (List Nat)) → Option (SState α × List Ev)
  | s, [] => some (s, [])
  | s, (x, d) :: rest =>
    match sStep c s x d with
    | none => none
    | some (s', ev) =>
      match sRun c s' rest with
      | none => none
      | some (s'', evs) => some (s'', ev :: evs)

theorem sRun_cons (c : SCfg α) (s : SState α) (x : List α) (d : List (List Nat))
    (rest : List (List α × List (List Nat))) :
    sRun c s ((x, d) :: rest) =
      (sStep c s x d).bind fun r => (sRun c r.1 rest).map fun q => (q.1, r.2 :: q.2) := by
  rw [sRun]
  cases sStep c s x d with
  | none => rfl
  | some r => cases h : sRun c r.1 rest <;> simp [h]

end stream

section
variable {α : Type}

/-- index (from 0) of the next sample within the current epoch -/
def epochPos (c : SCfg α) (s : SState α) : Nat :=
  match s.tree with
  | none => s.refData.length
  | some _ => c.window + s.testSize

/-- `total_batches += 1`, `batches_since_reset += 1` -/
def bTick (s : BState α) : BState α := { s with total := s.total + 1, since := s.since + 1 }

end

section batch
variable {α : Type} [Inhabited α] [Add α] [Sub α] [Mul α] [Div α] [LT α] [DecidableLT α]
  [LE α] [DecidableLE α] [NatCast α] [BEq α] [HasLogExp α] [HasRint α] [HasTrunc α]

theorem bSetRef_eq (c : BCfg α) (s : BState α) (m : Nat) (R : List (List α)) (d : List (List Nat)) :
    bSetRef c s m R d = (build c.part m R).map fun t =>
      { s with since := 0, drift := .none, tree := some t, testDist := none,
               critical := some (criticalKld (leafCountsD t 0).length (leafCountsD t 0).sum d c.alpha) } := by
  unfold bSetRef; cases build c.part m R <;> rfl

section setRef
variable {c : BCfg α} {s s0 : BState α} {m : Nat} {R : List (List α)} {d : List (List Nat)}

/-- `set_reference` leaves a reference tree, state `None` and `batches_since_reset = 0`; `total_batches`
    and the remembered batch are untouched -/
theorem bSetRef_fields (h : bSetRef c s m R d = some s0) :
    s0.total = s.total ∧ s0.refData = s.refData ∧ s0.since = 0 ∧ s0.drift = .none ∧ s0.tree.isSome = true := by
  rw [bSetRef_eq, Option.map_eq_some_iff] at h
  obtain ⟨t, -, rfl⟩ := h
  exact ⟨rfl, rfl, rfl, rfl, rfl⟩

theorem bSetRef_drift (h : bSetRef c s m R d = some s0) : s0.drift = .none := (bSetRef_fields h).2.2.2.1

end setRef

/-- first half of `update`: `set_reference(self.ref_data)` if a drift is pending -/
def bPre (c : BCfg α) (m : Nat) (s : BState α) (d : List (List Nat)) : Option (BState α) :=
  if s.drift = .drift then bSetRef c s m (s.refData.getD []) d else some s

/-- second half of `update`: count the batch, then install it as the reference or file and test it -/
def bCore (c : BCfg α) (m : Nat) (s : BState α) (X : List (List α)) (d : List (List Nat)) :
    Option (BState α × Option Bool) :=
  match s.tree with
  | none => (bSetRef c (bTick s) m X d).map (fun s => (s, none))
  | some t =>
    let t' := fill testId true X t
    let ex := decide (s.critical.getD default < divergence t')
    some ({ bTick s with tree := some t', testDist := some (divergence t'),
                         drift := if ex then .drift else s.drift,
                         refData := if ex then some X else s.refData }, some ex)

theorem bStep_eq (c : BCfg α) (m : Nat) (s : BState α) (X : List (List α)) (d : List (List Nat)) :
    bStep c s m X d = (bPre c m s d).bind fun s' => bCore c m s' X d := by
  unfold bStep bPre
  cases (if s.drift = .drift then bSetRef c s m (s.refData.getD []) d else some s) <;> rfl

section halves
variable (c : BCfg α) (m : Nat) {s : BState α} (X : List (List α)) (d : List (List Nat))

theorem bPre_quiet (hd : s.drift ≠ .drift) : bPre c m s d = some s := if_neg hd

theorem bPre_drift (hd : s.drift = .drift) : bPre c m s d = bSetRef c s m (s.refData.getD []) d := if_pos hd

theorem bCore_install (ht : s.tree = none) :
    bCore c m s X d = (bSetRef c (bTick s) m X d).map (fun s => (s, none)) := by
  simp only [bCore, ht]

theorem bCore_test {t : Kdq.Tree α} (ht : s.tree = some t) :
    bCore c m s X d =
      some ({ bTick s with tree := some (fill testId true X t),
                           testDist := some (divergence (fill testId true X t)),
                           drift := if decide (s.critical.getD default < divergence (fill testId true X t))
                                    then .drift else s.drift,
                           refData := if decide (s.critical.getD default < divergence (fill testId true X t))
                                      then some X else s.refData },
            some (decide (s.critical.getD default < divergence (fill testId true X t)))) := by
  simp only [bCore, ht]

end halves

section inverted
variable {c : BCfg α} {m : Nat} {s : BState α} {X : List (List α)} {d : List (List Nat)}

/-- what an accepted second half leaves: one update more, a reference tree, `batches_since_reset` restarted by an
    installation and else advanced, and a reported drift has remembered its batch -/
theorem bCore_some {s' : BState α} {f : Option Bool} (hd : s.drift ≠ .drift) (h : bCore c m s X d = some (s', f)) :
    s'.total = s.total + 1 ∧ s'.tree.isSome = true ∧ s'.since = (if s.tree = none then 0 else s.since + 1) ∧
    (s'.drift ≠ .none → 1 ≤ s'.since) ∧ (s'.drift = .drift → s'.refData = some X) := by
  cases ht : s.tree with
  | none =>
    rw [bCore_install c m X d ht] at h
    obtain ⟨s2, hb, e⟩ := Option.map_eq_some_iff.1 h
    cases e
    obtain ⟨g1, -, g2, g3, g4⟩ := bSetRef_fields hb
    exact ⟨g1, g4, g2, fun h' => absurd g3 h', fun h' => by rw [g3] at h'; cases h'⟩
  | some tr =>
    rw [bCore_test c m X d ht] at h
    cases h
    refine ⟨rfl, rfl, rfl, fun _ => Nat.le_add_left 1 _, ?_⟩
    by_cases hx : decide (s.critical.getD default < divergence (fill testId true X tr)) = true <;> simp [hx, hd]

end inverted

theorem bStep_install (c : BCfg α) (s : BState α) (m : Nat) (X : List (List α)) (d : List (List Nat))
    (hd : s.drift ≠ .drift) (ht : s.tree = none) :
    bStep c s m X d = (bSetRef c (bTick s) m X d).map (fun s => (s, none)) := by
  rw [bStep_eq, bPre_quiet c m d hd, Option.bind_some, bCore_install c m X d ht]

theorem bStep_test (c : BCfg α) (s : BState α) (m : Nat) (X : List (List α)) (d : List (List Nat)) (t : Kdq.Tree α)
    (hd : s.drift ≠ .drift) (ht : s.tree = some t) :
    bStep c s m X d =
      some ({ bTick s with tree := some (fill testId true X t),
                           testDist := some (divergence (fill testId true X t)),
                           drift := if decide (s.critical.getD default < divergence (fill testId true X t))
                                    then .drift else s.drift,
                           refData := if decide (s.critical.getD default < divergence (fill testId true X t))
                                      then some X else s.refData },
            some (decide (s.critical.getD default < divergence (fill testId true X t)))) := by
  rw [bStep_eq, bPre_quiet c m d hd, Option.bind_some, bCore_test c m X d ht]

theorem bStep_adopt (c : BCfg α) (s : BState α) (m : Nat) (X : List (List α)) (d : List (List Nat))
    (hd : s.drift = .drift) :
    bStep c s m X d = (bSetRef c s m (s.refData.getD []) d).bind fun s0 => bStep c s0 m X d := by
  rw [bStep_eq, bPre_drift c m d hd]
  refine Option.bind_congr fun s0 h => ?_
  rw [bStep_eq, bPre_quiet c m d (by rw [bSetRef_drift h]; nofun)]; rfl

/-- one accepted `KdqTreeBatch.update`: after a drift the remembered batch is adopted as the reference first
    (`batches_since_reset` restarts at 0, the batch then makes it 1); without a reference the batch is only
    installed; else it is tested -/
theorem bStep_fields {c : BCfg α} {s s' : BState α} {m : Nat} {X : List (List α)} {d : List (List Nat)}
    {f : Option Bool} (h : bStep c s m X d = some (s', f)) :
    s'.total = s.total + 1 ∧ s'.tree.isSome = true ∧
    s'.since = (if s.drift ≠ .drift ∧ s.tree = none then 0 else if s.drift = .drift then 1 else s.since + 1) ∧
    (s'.drift ≠ .none → 1 ≤ s'.since) ∧ (s'.drift = .drift → s'.refData = some X) := by
  rw [bStep_eq] at h
  obtain ⟨s1, hp, h⟩ := Option.bind_eq_some_iff.1 h
  by_cases hd : s.drift = .drift
  · rw [bPre_drift c m d hd] at hp
    obtain ⟨g1, -, g2, g3, g4⟩ := bSetRef_fields hp
    obtain ⟨q1, q2, q3, q4, q5⟩ := bCore_some (by rw [g3]; nofun) h
    rw [if_neg (Option.isSome_iff_ne_none.1 g4), g2] at q3
    exact ⟨q1.trans (congrArg (· + 1) g1), q2, q3.trans ((if_neg fun h => h.1 hd).trans (if_pos hd)).symm, q4, q5⟩
  · rw [bPre_quiet c m d hd] at hp
    cases hp
    obtain ⟨q1, q2, q3, q4, q5⟩ := bCore_some hd h
    refine ⟨q1, q2, q3.trans ?_, q4, q5⟩
    by_cases ht : s.tree = none
    · rw [if_pos ht, if_pos ⟨hd, ht⟩]
    · rw [if_neg ht, if_neg fun h => ht h.2, if_neg hd]

end batch

end MV.KdqDet
