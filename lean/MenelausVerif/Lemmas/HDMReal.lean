/-
  The model of HDDDM / CDBD at `ℝ` (`sqrt := Real.sqrt`, `log := Real.log`, `log1p z := Real.log (1 + z)`,
  `truncNat := ⌊·⌋₊`): the Hellinger and Jensen-Shannon distances as the sums under their roots
  (`hellSum`, `jsSum`), whence 0 on equal vectors, symmetry and the bounds; numpy's uniform-bin index
  as `min ⌊binPos⌋ (bins − 1)` (`binIndex_eq`), whence a histogram counts every value once.
-/
import MenelausVerif.Lemmas.HDMField
import Mathlib.Analysis.SpecialFunctions.Log.Basic
namespace MV.HDM
open MV

/- Scoped: they are in force inside `namespace MV.HDM` (or after `open MV.HDM`) only, so that a file which also
   imports another detector's instances at `ℝ` does not see two. -/
noncomputable scoped instance instSqrtReal : HasSqrt ℝ := ⟨Real.sqrt⟩
noncomputable scoped instance instLogExpReal : HasLogExp ℝ := ⟨Real.log, Real.exp⟩
noncomputable scoped instance instLog1pReal : HasLog1p ℝ := ⟨fun z => Real.log (1 + z)⟩
noncomputable scoped instance instTruncReal : HasTrunc ℝ := ⟨fun x => ⌊x⌋₊⟩

theorem rsqrt (x : ℝ) : (sqrt x : ℝ) = Real.sqrt x := rfl
theorem rlog (x : ℝ) : (log x : ℝ) = Real.log x := rfl
theorem rlog1p (x : ℝ) : (log1p x : ℝ) = Real.log (1 + x) := rfl

theorem zip_self_mem {β : Type} (l : List β) (p : β × β) (hp : p ∈ l.zip l) : p.1 = p.2 := by
  rw [List.zip_eq_zipWith, List.zipWith_self] at hp
  obtain ⟨a, -, rfl⟩ := List.mem_map.1 hp
  rfl

theorem sum_zip_le_add {β γ : Type} (g : β × γ → ℝ) (φ : β → ℝ) (ψ : γ → ℝ) (p : List β) (q : List γ)
    (hlen : p.length = q.length) (h : ∀ a ∈ p.zip q, g a ≤ φ a.1 + ψ a.2) :
    ((p.zip q).map g).sum ≤ (p.map φ).sum + (q.map ψ).sum := by
  have h1 : (p.map φ).sum = ((p.zip q).map (fun a => φ a.1)).sum := by
    conv_lhs => rw [← List.map_fst_zip (l₁ := p) (l₂ := q) hlen.le, List.map_map]
    rfl
  have h2 : (q.map ψ).sum = ((p.zip q).map (fun a => ψ a.2)).sum := by
    conv_lhs => rw [← List.map_snd_zip (l₁ := p) (l₂ := q) hlen.ge, List.map_map]
    rfl
  rw [h1, h2, ← List.sum_map_add]
  exact List.sum_le_sum h

theorem zipWith_zipWith_fst {β γ δ ε : Type} (f : β → δ → ε) (g : β → γ → δ) (p : List β) (q : List γ) :
    List.zipWith f p (List.zipWith g p q) = (p.zip q).map fun a => f a.1 (g a.1 a.2) := by
  rw [List.zipWith_zipWith_right, List.zipWith3_same_left, List.map_zip_eq_zipWith]
  rfl

theorem zipWith_zipWith_snd {β γ δ ε : Type} (f : γ → δ → ε) (g : β → γ → δ) (p : List β) (q : List γ) :
    List.zipWith f q (List.zipWith g p q) = (p.zip q).map fun a => f a.2 (g a.1 a.2) := by
  rw [List.zipWith_zipWith_right, List.zipWith3_same_mid, List.zipWith_comm, List.map_zip_eq_zipWith]
  rfl

theorem sum_map_natCast_div (l : List Nat) (c : ℝ) :
    (l.map (fun a : ℕ => (a : ℝ) / c)).sum = ((l.sum : ℕ) : ℝ) / c := by
  rw [Nat.cast_list_sum, ← sum_map_div, List.map_map]; rfl

/-- the sum under the root of `_hellinger_distance` -/
noncomputable def hellSum (r t : List Nat) (rl tl : ℝ) : ℝ :=
  ((List.zip r t).map (fun p : Nat × Nat =>
    (Real.sqrt ((p.2 : ℝ) / tl) - Real.sqrt ((p.1 : ℝ) / rl)) ^ 2)).sum

theorem hellinger_eq (r t : List Nat) :
    (hellinger r t : ℝ) = Real.sqrt (hellSum r t (r.sum : ℕ) (t.sum : ℕ)) := by
  simp only [hellinger, sumF_eq, hellSum, rsqrt, sq, pow_two]

theorem hellinger_self (h : List Nat) : (hellinger h h : ℝ) = 0 := by
  rw [hellinger_eq]
  have : hellSum h h (h.sum : ℕ) (h.sum : ℕ) = 0 := by
    unfold hellSum
    apply List.sum_eq_zero
    intro x hx
    obtain ⟨p, hp, rfl⟩ := List.mem_map.1 hx
    rw [zip_self_mem h p hp, sub_self, zero_pow two_ne_zero]
  rw [this, Real.sqrt_zero]

theorem hellSum_symm (r t : List Nat) (rl tl : ℝ) : hellSum r t rl tl = hellSum t r tl rl := by
  unfold hellSum
  rw [← List.zip_swap r t, List.map_map]
  congr 1
  apply List.map_congr_left
  intro p _
  simp only [Function.comp, Prod.fst_swap, Prod.snd_swap]
  ring

theorem hellinger_symm (r t : List Nat) : (hellinger r t : ℝ) = hellinger t r := by
  rw [hellinger_eq, hellinger_eq, hellSum_symm]

theorem hellSum_le (r t : List Nat) (rl tl : ℝ) (hrl : 0 ≤ rl) (htl : 0 ≤ tl) (hlen : r.length = t.length) :
    hellSum r t rl tl ≤ ((t.sum : ℕ) : ℝ) / tl + ((r.sum : ℕ) : ℝ) / rl := by
  rw [← sum_map_natCast_div, ← sum_map_natCast_div, add_comm]
  refine sum_zip_le_add _ _ _ r t hlen fun p _ => ?_
  -- `(√y − √x)² = y + x − 2·√y·√x ≤ y + x`
  rw [sub_sq, Real.sq_sqrt (div_nonneg (Nat.cast_nonneg _) hrl),
    Real.sq_sqrt (div_nonneg (Nat.cast_nonneg _) htl), sub_add_eq_add_sub, add_comm ((p.1 : ℝ) / rl)]
  exact sub_le_self _ (mul_nonneg (mul_nonneg zero_le_two (Real.sqrt_nonneg _)) (Real.sqrt_nonneg _))

/-- count vectors of equal length, as the two histograms are -/
theorem hellinger_le_sqrt2 (r t : List Nat) (hlen : r.length = t.length) :
    (hellinger r t : ℝ) ≤ Real.sqrt 2 := by
  rw [hellinger_eq]
  apply Real.sqrt_le_sqrt
  refine (hellSum_le r t (r.sum : ℕ) (t.sum : ℕ) (Nat.cast_nonneg _) (Nat.cast_nonneg _) hlen).trans ?_
  rw [← one_add_one_eq_two]
  exact add_le_add (div_self_le_one _) (div_self_le_one _)

theorem hellinger_nonneg (r t : List Nat) : (0 : ℝ) ≤ hellinger r t := by
  rw [hellinger_eq]; exact Real.sqrt_nonneg _

/-- over ℝ, scipy's `rel_entr` is `x·log(x/y)` on its domain (`0·log 0 = 0`).  Off the domain the model's `+inf`
    is `one / zero`, which is `0` at `ℝ`: a statement at `ℝ` that leaves the domain says nothing about scipy. -/
theorem relEntr_eq (x y : ℝ) (hx : 0 ≤ x) (hy : 0 ≤ y) (hxy : 0 < x → 0 < y) :
    relEntr x y = x * Real.log (x / y) := by
  unfold relEntr
  by_cases hx0 : 0 < x
  · have hy0 := hxy hx0
    simp only [zero_eq, hx0, hy0, and_self, if_true, rlog1p, rlog]
    split
    · congr 2; field_simp; ring
    · rfl
  · have : x = 0 := le_antisymm (not_lt.mp hx0) hx
    subst this
    simp [hy]

/-- the sum under the root of `jensenshannon`: `Σ p log(p/m) + Σ q log(q/m)` -/
noncomputable def jsSum (p q : List ℝ) : ℝ :=
  ((List.zip p q).map (fun a : ℝ × ℝ => a.1 * Real.log (a.1 / ((a.1 + a.2) / 2)))).sum +
  ((List.zip p q).map (fun a : ℝ × ℝ => a.2 * Real.log (a.2 / ((a.1 + a.2) / 2)))).sum

theorem normalise_nonneg (c : List Nat) : ∀ x ∈ (normalise c : List ℝ), 0 ≤ x := by
  intro x hx
  obtain ⟨k, _, rfl⟩ := List.mem_map.1 hx
  exact div_nonneg (Nat.cast_nonneg k) (Nat.cast_nonneg _)

theorem jensenShannon_eq (r t : List Nat) :
    (jensenShannon r t : ℝ) = Real.sqrt (jsSum (normalise r) (normalise t) / 2) := by
  simp only [jensenShannon, sumF_eq, rsqrt, two_eq, jsSum, zipWith_zipWith_fst, zipWith_zipWith_snd]
  -- both `rel_entr` calls are on the domain of `relEntr_eq`: the mean is positive where an entry is
  congr 4 <;>
  · apply List.map_congr_left
    intro a ha
    have h1 := normalise_nonneg r a.1 (List.of_mem_zip ha).1
    have h2 := normalise_nonneg t a.2 (List.of_mem_zip ha).2
    exact relEntr_eq _ _ (by assumption) (by positivity) (fun h => by positivity)

theorem jsSum_self (p : List ℝ) : jsSum p p = 0 := by
  have h : ∀ x : ℝ, x * Real.log (x / ((x + x) / 2)) = 0 := by
    intro x
    rw [add_self_div_two]
    rcases eq_or_ne x 0 with rfl | hx
    · rw [zero_mul]
    · rw [div_self hx, Real.log_one, mul_zero]
  unfold jsSum
  rw [List.sum_eq_zero, List.sum_eq_zero, add_zero]
  all_goals
    intro x hx
    obtain ⟨a, ha, rfl⟩ := List.mem_map.1 hx
  · rw [zip_self_mem p a ha]; exact h a.2
  · rw [← zip_self_mem p a ha]; exact h a.1

theorem jensenShannon_self (h : List Nat) : (jensenShannon h h : ℝ) = 0 := by
  rw [jensenShannon_eq, jsSum_self, zero_div, Real.sqrt_zero]

theorem jsSum_symm (p q : List ℝ) : jsSum p q = jsSum q p := by
  unfold jsSum
  rw [← List.zip_swap p q, List.map_map, List.map_map, add_comm]
  congr 2 <;>
  · apply List.map_congr_left
    intro a _
    simp only [Function.comp, Prod.fst_swap, Prod.snd_swap, add_comm]

theorem jensenShannon_symm (r t : List Nat) : (jensenShannon r t : ℝ) = jensenShannon t r := by
  rw [jensenShannon_eq, jensenShannon_eq, jsSum_symm]

/-- `x log(x/m) ≤ x log 2`, as `x ≤ 2m` -/
theorem jsTerm_le (x y : ℝ) (hx : 0 ≤ x) (hy : 0 ≤ y) :
    x * Real.log (x / ((x + y) / 2)) ≤ x * Real.log 2 := by
  rcases hx.eq_or_lt with rfl | hxp
  · rw [zero_mul, zero_mul]
  · have hm : 0 < (x + y) / 2 := half_pos (add_pos_of_pos_of_nonneg hxp hy)
    apply mul_le_mul_of_nonneg_left _ hx
    rw [Real.log_le_log_iff (div_pos hxp hm) zero_lt_two, div_le_iff₀ hm, mul_div_cancel₀ _ two_ne_zero]
    exact le_add_of_nonneg_right hy

/-- `x log(x/m) ≥ x − m` (from `log t ≥ 1 − 1/t`) -/
theorem jsTerm_ge (x y : ℝ) (hx : 0 ≤ x) (hy : 0 ≤ y) :
    x - (x + y) / 2 ≤ x * Real.log (x / ((x + y) / 2)) := by
  rcases hx.eq_or_lt with rfl | hxp
  · rw [zero_mul, zero_sub, neg_nonpos]
    exact div_nonneg (add_nonneg le_rfl hy) zero_le_two
  · have hm : 0 < (x + y) / 2 := half_pos (add_pos_of_pos_of_nonneg hxp hy)
    have h := mul_le_mul_of_nonneg_left (Real.one_sub_inv_le_log_of_pos (div_pos hxp hm)) hx
    rwa [inv_div, mul_sub, mul_one, mul_div_cancel₀ _ hxp.ne'] at h

theorem jsSum_le (p q : List ℝ) (hp : ∀ x ∈ p, 0 ≤ x) (hq : ∀ x ∈ q, 0 ≤ x) (hlen : p.length = q.length) :
    jsSum p q ≤ (p.sum + q.sum) * Real.log 2 := by
  have hmul : ∀ l : List ℝ, (l.map fun x => x * Real.log 2).sum = l.sum * Real.log 2 := fun l => by
    rw [List.sum_map_mul_right, List.map_id']
  unfold jsSum
  rw [← List.sum_map_add, add_mul, ← hmul p, ← hmul q]
  refine sum_zip_le_add _ (fun x => x * Real.log 2) (fun x => x * Real.log 2) p q hlen fun a ha => ?_
  have h1 := hp a.1 (List.of_mem_zip ha).1
  have h2 := hq a.2 (List.of_mem_zip ha).2
  have t2 := jsTerm_le a.2 a.1 h2 h1
  rw [add_comm a.2 a.1] at t2
  exact add_le_add (jsTerm_le a.1 a.2 h1 h2) t2

theorem normalise_sum_le_one (c : List Nat) : (normalise c : List ℝ).sum ≤ 1 := by
  unfold normalise
  rw [sum_map_natCast_div]
  exact div_self_le_one _

theorem normalise_length (c : List Nat) : (normalise c : List ℝ).length = c.length :=
  List.length_map _

/-- count vectors of equal length, as the two histograms are -/
theorem jensenShannon_le (r t : List Nat) (hlen : r.length = t.length) :
    (jensenShannon r t : ℝ) ≤ Real.sqrt (Real.log 2) := by
  rw [jensenShannon_eq]
  apply Real.sqrt_le_sqrt
  have h := jsSum_le (normalise r) (normalise t) (normalise_nonneg r) (normalise_nonneg t)
    (by rw [normalise_length, normalise_length, hlen])
  have hl : 0 ≤ Real.log 2 := Real.log_nonneg one_le_two
  have h1 := mul_le_mul_of_nonneg_right
    (add_le_add (normalise_sum_le_one r) (normalise_sum_le_one t)) hl
  linarith

theorem jensenShannon_nonneg (r t : List Nat) : (0 : ℝ) ≤ jensenShannon r t := by
  rw [jensenShannon_eq]; exact Real.sqrt_nonneg _

theorem jsSum_nonneg (p q : List ℝ) (hp : ∀ x ∈ p, 0 ≤ x) (hq : ∀ x ∈ q, 0 ≤ x) : 0 ≤ jsSum p q := by
  unfold jsSum
  rw [← List.sum_map_add]
  apply List.sum_nonneg
  intro x hx
  obtain ⟨a, ha, rfl⟩ := List.mem_map.1 hx
  have h1 := hp a.1 (List.of_mem_zip ha).1
  have h2 := hq a.2 (List.of_mem_zip ha).2
  have t2 := jsTerm_ge a.2 a.1 h2 h1
  rw [add_comm a.2 a.1] at t2
  -- the two lower bounds `x − m`, `y − m` add up to 0
  refine le_trans ?_ (add_le_add (jsTerm_ge a.1 a.2 h1 h2) t2)
  rw [sub_add_sub_comm, add_halves, sub_self]

/-- the quantity under the root of `jensenshannon` is never negative (so the root is the real
    root, not the `0` that `Real.sqrt` returns for negative arguments) -/
theorem jensenShannon_radicand_nonneg (r t : List Nat) :
    0 ≤ jsSum (normalise r : List ℝ) (normalise t) / 2 :=
  div_nonneg (jsSum_nonneg _ _ (normalise_nonneg r) (normalise_nonneg t)) zero_le_two

/-- over ℝ the last linspace edge `hi` is on the line `lo + i·(hi − lo)/bins` of the others -/
theorem edge_linear (lo hi : ℝ) (bins i : Nat) (hb : 0 < bins) :
    edge lo hi bins i = (i : ℝ) * ((hi - lo) / (bins : ℝ)) + lo := by
  unfold edge
  by_cases h : i = bins
  · subst h
    have : (i : ℝ) ≠ 0 := by exact_mod_cast (Nat.pos_iff_ne_zero.mp hb)
    simp only [if_true]; field_simp; ring
  · simp [h]

theorem edge_eq (lo hi : ℝ) (bins i : Nat) (hb : 0 < bins) (hi' : i ≤ bins) :
    edge lo hi bins i = (i : ℝ) * ((hi - lo) / (bins : ℝ)) + lo :=
  edge_linear lo hi bins i hb

/-- the position of `x` on the bin scale: `x = lo + binPos · w`, `w` the bin width -/
noncomputable def binPos (lo hi : ℝ) (bins : Nat) (x : ℝ) : ℝ := (x - lo) / (hi - lo) * (bins : ℝ)

/-- a linspace edge lies at or below `x` iff its number lies at or below `x`'s position on the bin
    scale: everything about `binIndex` reduces to comparing `binPos` with natural numbers -/
theorem edge_le_iff (lo hi : ℝ) (bins i : Nat) (x : ℝ) (hb : 0 < bins) (hlh : lo < hi) :
    edge lo hi bins i ≤ x ↔ (i : ℝ) ≤ binPos lo hi bins x := by
  have hd : 0 < hi - lo := sub_pos.2 hlh
  have hbr : (0 : ℝ) < bins := Nat.cast_pos.2 hb
  rw [edge_linear lo hi bins i hb, binPos, ← le_sub_iff_add_le, ← mul_div_assoc, div_le_iff₀ hbr,
    div_mul_eq_mul_div, le_div_iff₀ hd]

/-- the bin `min(⌊binPos⌋, bins − 1)` is the one whose edges bracket `x` -/
theorem binIndex_bracket (lo hi : ℝ) (bins : Nat) (x : ℝ) (hb : 0 < bins) (hlh : lo < hi) (hx : lo ≤ x ∧ x ≤ hi) :
    edge lo hi bins (min ⌊binPos lo hi bins x⌋₊ (bins - 1)) ≤ x ∧
      (x < edge lo hi bins (min ⌊binPos lo hi bins x⌋₊ (bins - 1) + 1) ∨
        (min ⌊binPos lo hi bins x⌋₊ (bins - 1) = bins - 1 ∧ x = hi)) := by
  have hf0 : 0 ≤ binPos lo hi bins x := (binScale_bounds bins hlh hx.1 hx.2).1
  have hlast : edge lo hi bins bins = hi := if_pos rfl
  constructor
  · rw [edge_le_iff lo hi bins _ x hb hlh]
    exact le_trans (Nat.cast_le.2 (min_le_left _ _)) (Nat.floor_le hf0)
  · by_cases hlt : x < hi
    · -- `x` is below the last edge, so its position is below `bins` and the floor itself is the bin
      left
      have hfb : binPos lo hi bins x < bins := by
        rw [← not_le, ← edge_le_iff lo hi bins bins x hb hlh, hlast]; exact not_le.2 hlt
      have hnb : ⌊binPos lo hi bins x⌋₊ < bins := (Nat.floor_lt hf0).2 hfb
      rw [min_eq_left (Nat.le_sub_one_of_lt hnb), ← not_le, edge_le_iff lo hi bins _ x hb hlh, not_le]
      exact_mod_cast Nat.lt_floor_add_one _
    · have hxe : x = hi := le_antisymm hx.2 (not_lt.1 hlt)
      have : bins ≤ ⌊binPos lo hi bins x⌋₊ := by
        apply Nat.le_floor
        rw [← edge_le_iff lo hi bins bins x hb hlh, hlast, hxe]
      exact Or.inr ⟨min_eq_right ((Nat.sub_le _ 1).trans this), hxe⟩

/-- over ℝ the ±1 corrections of numpy's rule never fire: the index is the truncated position,
    the right edge moved into the last bin -/
theorem binIndex_eq (lo hi : ℝ) (bins : Nat) (x : ℝ) (hb : 0 < bins) (hlh : lo < hi)
    (hx : lo ≤ x ∧ x ≤ hi) :
    binIndex lo hi bins x = min ⌊binPos lo hi bins x⌋₊ (bins - 1) := by
  have hn : ⌊binPos lo hi bins x⌋₊ ≤ bins := Nat.floor_le_of_le (binScale_bounds bins hlh hx.1 hx.2).2
  have h1 : (if ⌊binPos lo hi bins x⌋₊ = bins then ⌊binPos lo hi bins x⌋₊ - 1 else ⌊binPos lo hi bins x⌋₊)
      = min ⌊binPos lo hi bins x⌋₊ (bins - 1) := by
    split <;> omega
  obtain ⟨b1, b2⟩ := binIndex_bracket lo hi bins x hb hlh hx
  have k2 : ¬ (edge lo hi bins (min ⌊binPos lo hi bins x⌋₊ (bins - 1) + 1) ≤ x ∧
      min ⌊binPos lo hi bins x⌋₊ (bins - 1) ≠ bins - 1) := by
    rintro ⟨he, hne⟩
    rcases b2 with h | ⟨h, -⟩
    · exact not_le.2 h he
    · exact hne h
  have htr : truncNat ((x - lo) / (hi - lo) * (bins : ℝ)) = ⌊binPos lo hi bins x⌋₊ := rfl
  unfold binIndex
  simp only [htr, h1, if_neg (not_lt.2 b1), if_neg k2]

/-- **numpy's index rule puts a value into the bin whose edges bracket it** (left-closed,
    right-open; the last bin also contains the right edge). -/
theorem binIndex_spec (lo hi : ℝ) (bins : Nat) (x : ℝ) (hb : 0 < bins) (hlh : lo < hi)
    (hx : lo ≤ x ∧ x ≤ hi) :
    let i := binIndex lo hi bins x
    i < bins ∧ edge lo hi bins i ≤ x ∧ (x < edge lo hi bins (i + 1) ∨ (i = bins - 1 ∧ x = hi)) := by
  rw [binIndex_eq lo hi bins x hb hlh hx]
  exact ⟨(min_le_right _ _).trans_lt (Nat.sub_one_lt hb.ne'), binIndex_bracket lo hi bins x hb hlh hx⟩

theorem widen_spec {lo hi : ℝ} (hle : lo ≤ hi) :
    (widen lo hi).1 < (widen lo hi).2 ∧ (widen lo hi).1 ≤ lo ∧ hi ≤ (widen lo hi).2 := by
  have h : (0 : ℝ) < half := by rw [half_eq]; exact one_half_pos
  unfold widen
  rcases hle.eq_or_lt with rfl | hlt
  · rw [if_pos (beq_self_eq_true lo)]
    exact ⟨(sub_lt_self _ h).trans (lt_add_of_pos_right _ h), (sub_lt_self _ h).le,
      (lt_add_of_pos_right _ h).le⟩
  · rw [if_neg fun he => hlt.ne (beq_iff_eq.1 he)]
    exact ⟨hlt, le_rfl, le_rfl⟩

/-- **a histogram counts every value of the column once** when the range spans the column (as it
    does in `update`, where the range is the min / max over reference ∪ batch) -/
theorem hist_total (bins : Nat) (hb : 0 < bins) (lo hi : ℝ) (xs : List ℝ) (hle : lo ≤ hi)
    (hspan : ∀ x ∈ xs, lo ≤ x ∧ x ≤ hi) : (hist bins lo hi xs).sum = xs.length := by
  obtain ⟨hw, hwlo, hwhi⟩ := widen_spec hle
  have hin : ∀ x ∈ xs, (widen lo hi).1 ≤ x ∧ x ≤ (widen lo hi).2 := fun x hx =>
    ⟨hwlo.trans (hspan x hx).1, (hspan x hx).2.trans hwhi⟩
  have hkeep : xs.filter (inRange (widen lo hi).1 (widen lo hi).2) = xs := by
    rw [List.filter_eq_self]
    intro x hx
    simp only [inRange, Bool.and_eq_true, decide_eq_true_eq]
    exact hin x hx
  unfold hist
  simp only [binIndices, hkeep]
  rw [count_sum, List.length_map]
  intro i hi
  obtain ⟨x, hx, rfl⟩ := List.mem_map.1 hi
  exact (binIndex_spec _ _ bins x hb hw (hin x hx)).1

end MV.HDM
