/-
  The model's `np.unique(axis=0, return_inverse=True)` over a linear order, function by function in the
  library's terms: `sortRows` is `insertionSort`, `unique` its `dedup` (`unique_eq`), `indexIn` is `idxOf`.
  Hence `unique` is the strictly sorted list of the distinct rows, and the one-hot vectors of `parts` are
  membership indicators (`v1_exact`, `v2_exact`, `parts_eq`).
  `<` on `Row α = List α` is the lexicographic order of lists, in which a proper prefix is smaller;
  `rowLt` has that clause too, though rows of one width, as numpy has them, never meet it.
-/
import MenelausVerif.Model.NNSP
import Mathlib.Data.List.Dedup
import Mathlib.Data.List.Lex
import Mathlib.Data.List.Sort
namespace MV.NNSP

variable {α : Type} [LinearOrder α]

theorem rowLt_iff (a b : Row α) : rowLt a b = true ↔ a < b := by
  induction a generalizing b with
  | nil => cases b <;> simp [rowLt]
  | cons x xs ih =>
    cases b with
    | nil => simp [rowLt]
    | cons y ys =>
      simp only [rowLt, List.cons_lt_cons_iff]
      rcases lt_trichotomy x y with h | rfl | h
      · simp [h]
      · simp [ih]
      · simp [h, h.not_gt, h.ne']

theorem rowLt_false_iff (a b : Row α) : rowLt a b = false ↔ b ≤ a := by
  rw [← not_lt, ← rowLt_iff]; simp

theorem rowEq_iff (a b : Row α) : rowEq a b = true ↔ a = b := by
  unfold rowEq
  simp only [Bool.and_eq_true, Bool.not_eq_true', rowLt_false_iff]
  exact ⟨fun h => le_antisymm h.2 h.1, fun h => by simp [h]⟩

theorem insertRow_eq (r : Row α) (l : List (Row α)) : insertRow r l = l.orderedInsert (· ≤ ·) r := by
  induction l with
  | nil => rfl
  | cons x xs ih =>
    by_cases h : x < r
    · rw [insertRow, if_pos ((rowLt_iff x r).mpr h), ih,
        List.orderedInsert_of_not_le (r := (· ≤ ·)) xs (not_le.mpr h)]
    · rw [insertRow, if_neg (fun h' => h ((rowLt_iff x r).mp h')),
        List.orderedInsert_cons_of_le (r := (· ≤ ·)) xs (not_lt.mp h)]

theorem sortRows_eq (l : List (Row α)) : sortRows l = l.insertionSort (· ≤ ·) := by
  unfold sortRows List.insertionSort
  congr 1
  funext r l
  exact insertRow_eq r l

theorem dedupFrom_eq (prev : Row α) (ys : List (Row α)) (h : (prev :: ys).Pairwise (· ≤ ·)) :
    prev :: dedupFrom prev ys = (prev :: ys).dedup := by
  induction ys generalizing prev with
  | nil => rfl
  | cons y ys ih =>
    obtain ⟨hp, hs⟩ := List.pairwise_cons.mp h
    rw [dedupFrom]
    split
    · next he =>
      obtain rfl := (rowEq_iff _ _).mp he
      rw [ih _ hs, List.dedup_cons_of_mem List.mem_cons_self]
    · next he =>
      -- `prev` is strictly below `y`, hence below everything that follows: it occurs only once
      have hlt : prev < y := lt_of_le_of_ne (hp y List.mem_cons_self) (mt (rowEq_iff _ _).mpr he)
      have hn : prev ∉ y :: ys := fun hm =>
        not_le_of_gt hlt ((List.mem_cons.mp hm).elim (fun e => e ▸ le_refl _) (List.rel_of_pairwise_cons hs))
      rw [ih _ hs, List.dedup_cons_of_notMem hn]

theorem unique_eq (l : List (Row α)) : unique l = (l.insertionSort (· ≤ ·)).dedup := by
  have hs := List.pairwise_insertionSort (· ≤ ·) l
  rw [unique, sortRows_eq]
  cases h : l.insertionSort (· ≤ ·) with
  | nil => rfl
  | cons y ys => exact dedupFrom_eq y ys (h ▸ hs)

theorem unique_spec (l : List (Row α)) :
    (unique l).Pairwise (· < ·) ∧ ∀ x, x ∈ unique l ↔ x ∈ l := by
  rw [unique_eq]
  exact ⟨(((List.pairwise_insertionSort (· ≤ ·) l).sublist (List.dedup_sublist _)).and
      (List.nodup_dedup _)).imp fun h => lt_of_le_of_ne h.1 h.2,
    fun x => List.mem_dedup.trans (List.mem_insertionSort _)⟩

/-- `np.unique(axis=0)` depends on the *set* of rows only: a strictly sorted list is determined by
    its members -/
theorem unique_ext {l l' : List (Row α)} (hm : ∀ x, x ∈ l ↔ x ∈ l') : unique l = unique l' :=
  (unique_spec l).1.eq_of_mem_iff (unique_spec l').1
    (fun x => by rw [(unique_spec l).2, (unique_spec l').2, hm])

theorem unique_nodup (l : List (Row α)) : (unique l).Nodup :=
  (unique_spec l).1.imp ne_of_lt

theorem indexIn_eq_idxOf (pool : List (Row α)) (r : Row α) : indexIn pool r = pool.idxOf r := by
  unfold indexIn List.idxOf
  congr 1
  funext p
  rw [Bool.eq_iff_iff, rowEq_iff]; simp

theorem onehot_index (pool : List (Row α)) (hn : pool.Nodup) (s : List (Row α)) :
    onehot pool.length (s.map (indexIn pool)) = pool.map (fun p => decide (p ∈ s)) := by
  unfold onehot
  apply List.ext_getElem
  · simp
  · intro i h1 h2
    have hi : i < pool.length := by simpa using h2
    simp only [List.getElem_map, List.getElem_range]
    rw [Bool.eq_iff_iff]
    simp only [List.contains_iff_mem, decide_eq_true_eq, List.mem_map, indexIn_eq_idxOf]
    constructor
    · rintro ⟨r, hr, rfl⟩
      rwa [List.getElem_idxOf]
    · exact fun hmem => ⟨pool[i], hmem, hn.idxOf_getElem i hi⟩

theorem pool_spec (s1 s2 : List (Row α)) :
    (parts s1 s2).pool.Pairwise (· < ·) ∧ ∀ x, x ∈ (parts s1 s2).pool ↔ x ∈ s1 ∨ x ∈ s2 := by
  have h := unique_spec (s1 ++ s2)
  exact ⟨h.1, fun x => by rw [← List.mem_append]; exact h.2 x⟩

/-- `v1[i] = 1 ↔ D[i] ∈ sample1` — for samples of any (equal or unequal) sizes. -/
theorem v1_exact (s1 s2 : List (Row α)) :
    (parts s1 s2).v1 = (parts s1 s2).pool.map (fun p => decide (p ∈ s1)) := by
  show onehot (unique (s1 ++ s2)).length (((s1 ++ s2).map (indexIn (unique (s1 ++ s2)))).take s1.length) = _
  rw [List.map_append, List.take_left' (by simp)]
  exact onehot_index _ (unique_nodup _) s1

theorem v2_exact (s1 s2 : List (Row α)) :
    (parts s1 s2).v2 = (parts s1 s2).pool.map (fun p => decide (p ∈ s2)) := by
  show onehot (unique (s1 ++ s2)).length (((s1 ++ s2).map (indexIn (unique (s1 ++ s2)))).drop s1.length) = _
  rw [List.map_append, List.drop_left' (by simp)]
  exact onehot_index _ (unique_nodup _) s2

theorem parts_eq (s1 s2 : List (Row α)) :
    parts s1 s2 = { pool := unique (s1 ++ s2),
                    v1 := (unique (s1 ++ s2)).map (fun p => decide (p ∈ s1)),
                    v2 := (unique (s1 ++ s2)).map (fun p => decide (p ∈ s2)) } := by
  show ({ pool := unique (s1 ++ s2), v1 := (parts s1 s2).v1, v2 := (parts s1 s2).v2 } : Parts α) = _
  rw [v1_exact, v2_exact]
  rfl

/-- index form of `v1_exact` / `v2_exact` -/
theorem v1_exact_get (s1 s2 : List (Row α)) (i : Nat) (hi : i < (parts s1 s2).pool.length) :
    (parts s1 s2).v1[i]? = some true ↔ (parts s1 s2).pool[i] ∈ s1 := by
  rw [v1_exact]; simp [hi]

theorem v2_exact_get (s1 s2 : List (Row α)) (i : Nat) (hi : i < (parts s1 s2).pool.length) :
    (parts s1 s2).v2[i]? = some true ↔ (parts s1 s2).pool[i] ∈ s2 := by
  rw [v2_exact]; simp [hi]

theorem cover (s1 s2 : List (Row α)) (i : Nat) (hi : i < (parts s1 s2).pool.length) :
    (parts s1 s2).v1.getD i false = true ∨ (parts s1 s2).v2.getD i false = true := by
  have hm := ((pool_spec s1 s2).2 ((parts s1 s2).pool[i])).mp (List.getElem_mem hi)
  rw [v1_exact, v2_exact]
  simp only [List.getD_eq_getElem?_getD, List.getElem?_map, List.getElem?_eq_getElem hi, Option.map_some,
    Option.getD_some, decide_eq_true_eq]
  exact hm

end MV.NNSP
