/-
  C05 — DDM, EDDM and STEPD decide from the error sequence exactly as specified.

  The executable specification of each method is its model (`Model/DDM.lean`,
  `Model/EDDM.lean`, `Model/STEPD.lean`; tied to the code by `harness/checks/c05.py`).
  This file proves what that specification *means*, for every history of
  correct / incorrect predictions, every configuration and across epochs:

  * for every numeric carrier (so also for the executed `Float` instance):
    the counters (`total_samples`, `samples_since_reset`, where the epoch starts: `ddm_epoch`,
    `eddm_epoch`, `stepd_epoch`, which stand in `Lemmas/ErrSteps.lean` beside `counters`),
    the decision tables (state after an update exactly by the documented
    comparisons and guards), the guards on whole histories, and the semantics of
    `retraining_recs` (`*_recs_semantics`);
  * over ordered fields: DDM's running error rate is errors / n of the epoch,
    its stored minimum pair is a minimiser of p + s over the tested positions of the
    epoch; EDDM's running mean distance telescopes to (index of the latest error) /
    (number of errors); STEPD's counters are the numbers of correct predictions
    inside / before the most recent window of the epoch (Nat-valued, no carrier).

  Inputs the real code rejects: STEPD `window_size = 0` (ZeroDivisionError).
-/
import MenelausVerif.Lemmas.ErrSteps
import MenelausVerif.Lemmas.Carrier

namespace MV
open MV.ErrTrace

namespace DDM
section anyCarrier
variable {α : Type} [Add α] [Sub α] [Mul α] [Div α] [LE α] [DecidableLE α] [NatCast α] [HasSqrt α]

/-- **`retraining_recs` (every carrier).**  After any history, `recs[0]` is the index of
    the first update of the current epoch that left the detector in `warning` or
    `drift` (`None` if there was none — so it is the drift index when no warning
    preceded the drift) and `recs[1]` is set exactly while the state is `drift`, to
    that update's index.  Both are cleared by the update after the drift (it opens
    a new epoch). -/
theorem ddm_recs_semantics (c : Cfg α) (xs : List Bool) : FirstSem (step c) init (obs (α := α)) xs :=
  firstSem _ _ _ (counters c) (firstRule c) xs

theorem ddm_recs_first_iff (c : Cfg α) (xs : List Bool) (i : Nat) :
    (run c xs).recs.1 = some i ↔
      (xs.length - (run c xs).since ≤ i ∧ i < xs.length ∧ stateAt (step c) init obs xs i ≠ .none ∧
       ∀ j, xs.length - (run c xs).since ≤ j → j < i → stateAt (step c) init obs xs j = .none) :=
  (ddm_recs_semantics c xs).iff _ _ _ i

theorem ddm_step_stats (c : Cfg α) (s : State α) (e : Bool) :
    (step c s e).since = (pre s).since + 1 ∧
    (step c s e).rate = newRate (pre s).rate (bit e) ((pre s).since + 1) ∧
    (step c s e).std = newStd (pre s).std (pre s).rate (step c s e).rate (bit e) ((pre s).since + 1) :=
  ⟨core_since c _ e, core_rate c _ e, core_std c _ e⟩

theorem ddm_step_burnin (c : Cfg α) (s : State α) (e : Bool) (h : (pre s).since + 1 < c.nThreshold) :
    (step c s e).drift = (pre s).drift ∧ (step c s e).mins = (pre s).mins ∧
    (step c s e).recs = (pre s).recs :=
  core_burnin c _ e h

/-- **Decision table, tested rows (every carrier)**: from `n_threshold` samples on, the
    minimum pair is updated when `p + s <= p_min + s_min` (always the first time),
    and the state is `drift` / `warning` / `None` exactly by
    `p + s >= p_min + drift_scale * s`, else `p + s >= p_min + warning_scale * s`. -/
theorem ddm_step_tested (c : Cfg α) (s : State α) (e : Bool) (h : c.nThreshold ≤ (pre s).since + 1) :
    ∃ pm sm, (step c s e).mins = some (pm, sm) ∧
      (pm, sm) = newMins (pre s).mins (step c s e).rate (step c s e).std ∧
      ((step c s e).drift = .drift ↔
        pm + c.driftScale * (step c s e).std ≤ (step c s e).rate + (step c s e).std) ∧
      ((step c s e).drift = .warning ↔
        ¬ pm + c.driftScale * (step c s e).std ≤ (step c s e).rate + (step c s e).std ∧
        pm + c.warningScale * (step c s e).std ≤ (step c s e).rate + (step c s e).std) ∧
      ((step c s e).drift = .none ↔
        ¬ pm + c.driftScale * (step c s e).std ≤ (step c s e).rate + (step c s e).std ∧
        ¬ pm + c.warningScale * (step c s e).std ≤ (step c s e).rate + (step c s e).std) ∧
      (step c s e).recs = incRecsFirst (step c s e).drift s.total (pre s).recs := by
  obtain ⟨hm, hd, hr⟩ := core_tested c (pre s) e h
  obtain ⟨t1, t2, t3⟩ := decide3_iff c (step c s e).rate (step c s e).std
    (newMins (pre s).mins (step c s e).rate (step c s e).std).1
  rw [pre_total] at hr
  rw [← step_eq] at hm hd hr
  rw [← hd] at t1 t2 t3
  exact ⟨_, _, hm, rfl, t1, t2, t3, hr⟩

theorem ddm_quiet_before_threshold (c : Cfg α) (xs : List Bool) :
    (run c xs).since < c.nThreshold →
      (run c xs).drift = .none ∧ (run c xs).recs = Recs.empty ∧ (run c xs).mins = none :=
  (firstRule c).inv_run xs

end anyCarrier

section newMins
variable {α : Type} [Add α] [LE α] [DecidableLE α]

theorem ddm_newMins (mins : Option (α × α)) (rate std : α) :
    newMins mins rate std =
      match mins with
      | none => (rate, std)
      | some (pm, sm) => if rate + std ≤ pm + sm then (rate, std) else (pm, sm) := rfl

end newMins

/-- `j` is a tested position of an epoch that consists of the last `since` of `n` updates:
    it lies in the epoch and is at least its `n_threshold`-th sample -/
def TestedAt {K : Type} (c : Cfg K) (n since j : Nat) : Prop :=
  n - since ≤ j ∧ j < n ∧ c.nThreshold ≤ j + 1 - (n - since)

/-- one more update of the epoch: the only new candidate is the latest position, the epoch's `p + 1`-st -/
theorem testedAt_succ {K : Type} (c : Cfg K) {n p : Nat} (hp : p ≤ n) (j : Nat) :
    TestedAt c (n + 1) (p + 1) j ↔ TestedAt c n p j ∨ (j = n ∧ c.nThreshold ≤ p + 1) := by
  have e : n + 1 - (n - p) = p + 1 := by rw [Nat.succ_sub (Nat.sub_le n p), Nat.sub_sub_self hp]
  unfold TestedAt
  rw [Nat.add_sub_add_right, Nat.lt_succ_iff_lt_or_eq]
  constructor
  · rintro ⟨h1, h2 | rfl, h3⟩
    · exact Or.inl ⟨h1, h2, h3⟩
    · exact Or.inr ⟨rfl, e ▸ h3⟩
  · rintro (⟨h1, h2, h3⟩ | ⟨rfl, h⟩)
    · exact ⟨h1, Or.inl h2, h3⟩
    · exact ⟨Nat.sub_le _ _, Or.inr rfl, e ▸ h⟩

section minIn
variable {K : Type} [Add K] [LinearOrder K]

theorem newMins_le (m : Option (K × K)) (r s : K) :
    (newMins m r s).1 + (newMins m r s).2 ≤ r + s ∧
    (∀ p, m = some p → (newMins m r s).1 + (newMins m r s).2 ≤ p.1 + p.2) ∧
    (newMins m r s = (r, s) ∨ m = some (newMins m r s)) := by
  unfold newMins
  cases m with
  | none => exact ⟨le_refl _, nofun, Or.inl rfl⟩
  | some p =>
    obtain ⟨pm, sm⟩ := p
    dsimp only
    split
    · rename_i h; exact ⟨le_refl _, fun a hab => by cases hab; exact h, Or.inl rfl⟩
    · rename_i h; exact ⟨le_of_lt (not_le.mp h), fun a hab => by cases hab; exact le_refl _, Or.inr rfl⟩

/-- `m` holds nothing while no position is tested (`T`), else the pair `(r t, s t)` of a tested
    position `t` that minimises `r + s` over all of them -/
def MinIn (T : Nat → Prop) (r s : Nat → K) (m : Option (K × K)) : Prop :=
  (m = none → ∀ j, ¬ T j) ∧
  ∀ p, m = some p → (∀ j, T j → p.1 + p.2 ≤ r j + s j) ∧ ∃ t, T t ∧ p.1 = r t ∧ p.2 = s t

/-- `newMins` keeps it, when position `n` is appended, which is tested iff `q` -/
theorem MinIn.snoc {T T' : Nat → Prop} {r s r' s' : Nat → K} {m m' : Option (K × K)} {n : Nat} {q : Prop}
    (h : MinIn T r s m) (hT : ∀ j, T' j ↔ T j ∨ (j = n ∧ q))
    (hv : ∀ j, T j → r' j = r j ∧ s' j = s j)
    (hq : q → m' = some (newMins m (r' n) (s' n))) (hnq : ¬ q → m' = m) : MinIn T' r' s' m' := by
  have old : ∀ p, m = some p →
      (∀ j, T j → p.1 + p.2 ≤ r' j + s' j) ∧ ∃ t, T' t ∧ p.1 = r' t ∧ p.2 = s' t := by
    intro p hm
    obtain ⟨lb, t, ht, e1, e2⟩ := h.2 p hm
    exact ⟨fun j hj => by rw [(hv j hj).1, (hv j hj).2]; exact lb j hj,
      t, (hT t).2 (Or.inl ht), by rw [(hv t ht).1, e1], by rw [(hv t ht).2, e2]⟩
  by_cases hq' : q
  · -- the new pair competes with the stored one
    obtain ⟨n1, n2, n3⟩ := newMins_le m (r' n) (s' n)
    rw [hq hq']
    refine ⟨nofun, fun p hm => ?_⟩
    cases hm
    refine ⟨fun j hj => ?_, ?_⟩
    · rcases (hT j).1 hj with hj | ⟨rfl, -⟩
      · obtain hm0 | ⟨p, hm0⟩ := Option.eq_none_or_eq_some m
        · exact absurd hj (h.1 hm0 j)
        · exact le_trans (n2 p hm0) ((old p hm0).1 j hj)
      · exact n1
    · rcases n3 with h3 | h3
      · exact ⟨n, (hT n).2 (Or.inr ⟨rfl, hq'⟩), by rw [h3], by rw [h3]⟩
      · exact (old _ h3).2
  · -- no new tested position, nothing stored
    have hT' : ∀ j, T' j → T j := fun j hj => ((hT j).1 hj).resolve_right fun g => hq' g.2
    rw [hnq hq']
    exact ⟨fun hm j hj => h.1 hm j (hT' j hj),
      fun p hm => ⟨fun j hj => (old p hm).1 j (hT' j hj), (old p hm).2⟩⟩

end minIn

theorem count_singleton_eq_bit {K : Type} [Field K] (e : Bool) : (([e].count true : Nat) : K) = bit e := by
  cases e <;> simp [bit]

section order
variable {K : Type} [Field K] [LinearOrder K] [HasSqrt K]

@[simp] theorem erun (c : Cfg K) (xs : List Bool) : ErrTrace.run (step c) init xs = run c xs := rfl

/-- running estimates after update `j` of the history -/
def rateAt (c : Cfg K) (xs : List Bool) (j : Nat) : K := (run c (xs.take (j + 1))).rate
def stdAt (c : Cfg K) (xs : List Bool) (j : Nat) : K := (run c (xs.take (j + 1))).std

/-- what the stored pair `(p_min, s_min)` means after the history `xs`, in terms of the running
    estimates at the tested positions of the current epoch (the statement of `ddm_min`) -/
structure MinSem (c : Cfg K) (xs : List Bool) : Prop where
  quiet : (run c xs).since < c.nThreshold → (run c xs).mins = none
  tested : c.nThreshold ≤ (run c xs).since → xs ≠ [] → ∃ pm sm, (run c xs).mins = some (pm, sm) ∧
    (∀ j, TestedAt c xs.length (run c xs).since j → pm + sm ≤ rateAt c xs j + stdAt c xs j) ∧
    (∃ t, TestedAt c xs.length (run c xs).since t ∧ pm = rateAt c xs t ∧ sm = stdAt c xs t)

theorem at_snoc_lt (c : Cfg K) {xs : List Bool} {x : Bool} {j : Nat} (h : j < xs.length) :
    rateAt c (xs ++ [x]) j = rateAt c xs j ∧ stdAt c (xs ++ [x]) j = stdAt c xs j := by
  unfold rateAt stdAt
  rw [List.take_append_of_le_length h]
  exact ⟨rfl, rfl⟩

theorem at_snoc_eq (c : Cfg K) (xs : List Bool) (x : Bool) :
    rateAt c (xs ++ [x]) xs.length = (run c (xs ++ [x])).rate ∧
    stdAt c (xs ++ [x]) xs.length = (run c (xs ++ [x])).std := by
  unfold rateAt stdAt
  rw [List.take_of_length_le (by simp)]
  exact ⟨rfl, rfl⟩

theorem mins_minIn (c : Cfg K) (xs : List Bool) :
    MinIn (TestedAt c xs.length (run c xs).since) (rateAt c xs) (stdAt c xs) (run c xs).mins := by
  induction xs using snoc_induction with
  | nil => exact ⟨fun _ j hj => absurd hj.2.1 (Nat.not_lt_zero j), nofun⟩
  | snoc xs x ih =>
    -- the state the update starts from tracks the earlier positions of its epoch
    have hpre : MinIn (TestedAt c xs.length (pre (run c xs)).since) (rateAt c xs) (stdAt c xs)
        (pre (run c xs)).mins ∧ (pre (run c xs)).since ≤ xs.length := by
      unfold pre; split
      · exact ⟨⟨fun _ j hj => absurd hj.2.1 (Nat.not_lt.2 hj.1), nofun⟩, Nat.zero_le _⟩
      · exact ⟨ih, (ddm_epoch c xs).since_le⟩
    obtain ⟨hr, hs⟩ := at_snoc_eq c xs x
    rw [run_snoc, step_eq] at hr hs ⊢
    rw [List.length_append, core_since]
    refine hpre.1.snoc (testedAt_succ c hpre.2) (fun j hj => at_snoc_lt c hj.2.1)
      (fun h => ?_) fun h => (core_burnin c _ x (Nat.lt_of_not_le h)).2.1
    rw [hr, hs]
    exact (core_tested c _ x h).1

end order
section field
variable {K : Type} [Field K] [LinearOrder K] [IsStrictOrderedRing K] [HasSqrt K]

/-- **DDM's running error rate is the error fraction of the epoch (ordered fields).**
    `rate * n = number of errors among the n samples of the current epoch`, for every
    history, every configuration, in every epoch (whatever `sqrt` is). -/
theorem ddm_rate_mul (c : Cfg K) (xs : List Bool) :
    (run c xs).rate * ((run c xs).since : K) = (((epoch (step c) init obs xs).count true : Nat) : K) :=
  epoch_induction (step c) init obs (counters c) (core c) reset (fun _ _ => rfl)
    (fun s ep => s.rate * (s.since : K) = ((ep.count true : Nat) : K))
    (fun s ep x ih => by
      rw [core_rate, core_since, newRate, runMean_mul, ih, List.count_append, Nat.cast_add, count_singleton_eq_bit])
    (fun _ => by simp [reset]) (by simp [init]) xs

/-- `error_rate = errors / n` (ordered fields); before the first update both sides are `0` -/
theorem ddm_rate_eq (c : Cfg K) (xs : List Bool) :
    (run c xs).rate = (((epoch (step c) init obs xs).count true : Nat) : K) / ((run c xs).since : K) := by
  rcases eq_or_ne xs [] with rfl | hne
  · simp [run, init, zero]
  · rw [← ddm_rate_mul c xs,
      mul_div_cancel_right₀ _ (Nat.cast_ne_zero.mpr (Nat.ne_of_gt ((ddm_epoch c xs).since_pos hne)))]

theorem ddm_rate (c : Cfg K) (xs : List Bool) (h : xs ≠ []) :
    (run c xs).rate = (((epoch (step c) init obs xs).count true : Nat) : K) / ((run c xs).since : K) :=
  ddm_rate_eq c xs

set_option linter.unusedSectionVars false in
/-- **DDM's minimum tracking (ordered fields).**  After any history whose current epoch has
    reached `n_threshold` samples, the stored pair `(p_min, s_min)` is the pair
    `(p_t, s_t)` of some tested position `t` of the epoch, and `p_min + s_min` is a lower
    bound of `p_j + s_j` over all tested positions `j` of the epoch: it is a minimiser of
    `p + s`.  Before `n_threshold` samples nothing is stored.  (Only the order is used: no law of
    `+`, `*`, `/`, `sqrt`.) -/
theorem ddm_min (c : Cfg K) (xs : List Bool) : MinSem c xs := by
  refine ⟨fun h => (ddm_quiet_before_threshold c xs h).2.2, fun h hne => ?_⟩
  cases hm : (run c xs).mins with
  | some p => exact ⟨p.1, p.2, rfl, (mins_minIn c xs).2 p hm⟩
  | none =>
    -- the latest update is a tested position
    have hn : 0 < xs.length := List.length_pos_iff.mpr hne
    have hle : (run c xs).since ≤ xs.length := (ddm_epoch c xs).since_le
    have ht : TestedAt c xs.length (run c xs).since (xs.length - 1) :=
      ⟨Nat.sub_le_sub_left ((ddm_epoch c xs).since_pos hne) _, Nat.sub_lt hn Nat.one_pos,
        by rw [Nat.sub_add_cancel hn, Nat.sub_sub_self hle]; exact h⟩
    exact absurd ht ((mins_minIn c xs).1 hm _)

end field

end DDM

namespace EDDM
section anyCarrier
variable {α : Type} [Add α] [Sub α] [Mul α] [Div α] [LT α] [DecidableLT α] [LE α] [DecidableLE α]
  [NatCast α] [HasSqrt α]

/-- **`retraining_recs` (every carrier)**: `recs[0]` = index of the first update of the
    current epoch that left the detector in `warning` or `drift` (so the drift index
    when no warning preceded), `recs[1]` = the drift index, set exactly while the
    state is `drift`; both cleared by the next update. -/
theorem eddm_recs_semantics (c : Cfg α) (xs : List Bool) : FirstSem (step c) init (obs (α := α)) xs :=
  firstSem _ _ _ (counters c) (firstRule c) xs

theorem eddm_recs_first_iff (c : Cfg α) (xs : List Bool) (i : Nat) :
    (run c xs).recs.1 = some i ↔
      (xs.length - (run c xs).since ≤ i ∧ i < xs.length ∧ stateAt (step c) init obs xs i ≠ .none ∧
       ∀ j, xs.length - (run c xs).since ≤ j → j < i → stateAt (step c) init obs xs j = .none) :=
  (eddm_recs_semantics c xs).iff _ _ _ i

theorem eddm_step_correct (c : Cfg α) (s : State α) :
    step c s false = { pre s with total := s.total + 1, since := (pre s).since + 1 } := by
  rw [step_eq, core_correct_eq, pre_total]

theorem eddm_step_error_stats (c : Cfg α) (s : State α) :
    (step c s true).nErrors = (pre s).nErrors + 1 ∧
    (step c s true).idxCurr = (pre s).since ∧
    (step c s true).distMean =
      newMean (pre s).distMean (((pre s).since - (pre s).idxCurr : Nat) : α) ((pre s).nErrors + 1) ∧
    (step c s true).distStd =
      newStd (pre s).distStd (pre s).distMean (step c s true).distMean
        (((pre s).since - (pre s).idxCurr : Nat) : α) ((pre s).nErrors + 1) :=
  (core_error c (pre s)).2.2

theorem eddm_step_error_burnin (c : Cfg α) (s : State α) (h : (pre s).nErrors + 1 < c.nThreshold) :
    (step c s true).drift = (pre s).drift ∧ (step c s true).maxNum = (pre s).maxNum ∧
    (step c s true).recs = (pre s).recs :=
  core_error_burnin c _ h

/-- **Decision table, tested error (every carrier)**: from the `n_threshold`-th error on,
    with `cur = mean + 2 * std`: the maximum becomes `cur` iff `max < cur`, and the
    state is `drift` / `warning` / `None` exactly by `cur / max <= drift_thresh`, else
    `cur / max <= warning_thresh`. -/
theorem eddm_step_error_tested (c : Cfg α) (s : State α) (h : c.nThreshold ≤ (pre s).nErrors + 1) :
    let s' := step c s true
    let cur := numerator s'.distMean s'.distStd
    s'.maxNum = newMax (pre s).maxNum cur ∧
    (s'.drift = .drift ↔ cur / s'.maxNum ≤ c.driftThresh) ∧
    (s'.drift = .warning ↔ ¬ cur / s'.maxNum ≤ c.driftThresh ∧ cur / s'.maxNum ≤ c.warningThresh) ∧
    (s'.drift = .none ↔ ¬ cur / s'.maxNum ≤ c.driftThresh ∧ ¬ cur / s'.maxNum ≤ c.warningThresh) ∧
    s'.recs = incRecsFirst s'.drift s.total (pre s).recs := by
  intro s' cur
  obtain ⟨hm, hd, hr⟩ := core_error_tested c (pre s) h
  obtain ⟨t1, t2, t3⟩ := decide3_iff c (cur / s'.maxNum)
  rw [pre_total] at hr
  rw [show s'.drift = _ from hd]
  exact ⟨hm, t1, t2, t3, hd ▸ hr⟩

theorem eddm_quiet_before_threshold (c : Cfg α) (xs : List Bool) :
    (run c xs).nErrors < c.nThreshold →
      (run c xs).drift = .none ∧ (run c xs).recs = Recs.empty :=
  ((firstRule c).inv_run xs).1

/-- what `n_errors` and `_index_error_curr` mean for the samples `ep` of the current epoch: the number
    of errors, and the position of the latest one (0 while there is none; every sample after it is
    correct) -/
structure ErrSem (s : State α) (ep : List Bool) : Prop where
  len : ep.length = s.since
  count : s.nErrors = ep.count true
  zero : s.nErrors = 0 → s.idxCurr = 0
  last : 0 < s.nErrors → ep[s.idxCurr]? = some true ∧
    ∀ j, s.idxCurr < j → j < ep.length → ep[j]? = some false

theorem errSem_core (c : Cfg α) (s : State α) (ep : List Bool) (x : Bool) (h : ErrSem s ep) :
    ErrSem (core c s x) (ep ++ [x]) := by
  obtain ⟨h1, h2, h3, h4⟩ := h
  have hlen : (ep ++ [x]).length = s.since + 1 := by rw [List.length_append, h1]; rfl
  cases x
  · -- the latest error stays where it is, followed by one more correct prediction
    refine ⟨hlen, by rw [List.count_append]; exact h2, h3, fun hp => ?_⟩
    obtain ⟨g1, g2⟩ := h4 hp
    have hlt : s.idxCurr < ep.length := (List.getElem?_eq_some_iff.1 g1).1
    refine ⟨(List.getElem?_append_left hlt).trans g1, fun j hj1 hj2 => ?_⟩
    rw [List.length_append] at hj2
    rcases Nat.lt_succ_iff_lt_or_eq.1 hj2 with hj | rfl
    · rw [List.getElem?_append_left hj]; exact g2 j hj1 hj
    · exact List.getElem?_concat_length
  · -- the new sample is the latest error
    obtain ⟨-, hs, hn, hi, -⟩ := core_error c s
    refine ⟨hlen.trans hs.symm, by rw [hn, h2, List.count_append]; rfl, by rw [hn]; nofun, fun _ => ?_⟩
    rw [hi, ← h1]
    refine ⟨List.getElem?_concat_length, fun j hj1 hj2 => ?_⟩
    rw [List.length_append] at hj2
    exact absurd hj2 (Nat.not_lt.2 hj1)

/-- **Error bookkeeping (every carrier).**  After any history: `n_errors` is the number
    of errors in the current epoch; `index_error_curr` is the epoch-relative index of
    the latest of them (0 while there is none). -/
theorem eddm_errors (c : Cfg α) (xs : List Bool) :
    ErrSem (run c xs) (epoch (step c) init (obs (α := α)) xs) :=
  epoch_induction (step c) init obs (counters c) (core c) reset (fun _ _ => rfl) ErrSem
    (errSem_core c) (fun _ => ⟨rfl, rfl, fun _ => rfl, nofun⟩) ⟨rfl, rfl, fun _ => rfl, nofun⟩ xs

end anyCarrier
section field
variable {K : Type} [Field K] [LinearOrder K] [IsStrictOrderedRing K] [HasSqrt K]

/-- **EDDM's running mean distance telescopes (ordered fields).**
    `dist_mean * n_errors = index of the latest error inside the epoch`, for every
    history, every configuration, in every epoch (whatever `sqrt` is). -/
theorem eddm_mean_mul (c : Cfg K) (xs : List Bool) :
    (run c xs).distMean * ((run c xs).nErrors : K) = ((run c xs).idxCurr : K) :=
  -- carried along: the latest error lies in the epoch, so the distance is a difference in `K` too
  (reset_induction (step c) init obs (core c) reset (fun _ _ => rfl)
    (fun s => s.distMean * (s.nErrors : K) = (s.idxCurr : K) ∧ s.idxCurr ≤ s.since)
    (fun s x ⟨ih, hle⟩ => by
      cases x
      · exact ⟨ih, Nat.le_succ_of_le hle⟩
      · obtain ⟨-, hs, hn, hi, hm, -⟩ := core_error c s
        rw [hn, hi, hm, hs, newMean, runMean_mul, ih, Nat.cast_sub hle]
        exact ⟨by ring, Nat.le_succ _⟩)
    (fun _ => ⟨by simp [reset], Nat.le_refl _⟩) ⟨by simp [init], Nat.le_refl _⟩ xs).1

theorem eddm_mean (c : Cfg K) (xs : List Bool) (h : (run c xs).nErrors ≠ 0) :
    (run c xs).distMean = ((run c xs).idxCurr : K) / ((run c xs).nErrors : K) := by
  rw [← eddm_mean_mul c xs, mul_div_cancel_right₀ _ (Nat.cast_ne_zero.mpr h)]

end field

end EDDM

namespace STEPD

/-- what window and counters mean for the outcomes `okl` (`true` = correct) of the current epoch -/
structure WinSem (w : Nat) (s : State) (okl : List Bool) : Prop where
  len : okl.length = s.since
  win : s.win = okl.drop (okl.length - w)
  sIn : s.sIn = s.win.count true
  rPast : s.rPast = (okl.take (okl.length - w)).count true

theorem count_single (b : Bool) : [b].count true = b2n b := by cases b <;> rfl

/-- the outcomes `okl` of the current epoch are a past followed by the window; the window holds at most
    `w` of them, and nothing has left it before it was full -/
def Windowed (w : Nat) (s : State) (okl : List Bool) : Prop :=
  okl.length = s.since ∧ s.win.length ≤ w ∧ ∃ past, okl = past ++ s.win ∧ (past = [] ∨ s.win.length = w) ∧
    s.sIn = s.win.count true ∧ s.rPast = past.count true

theorem Windowed.winSem {w : Nat} {s : State} {okl : List Bool} (h : Windowed w s okl) : WinSem w s okl := by
  obtain ⟨h1, hle, past, h2, h3, h4, h5⟩ := h
  subst h2
  have hk : (past ++ s.win).length - w = past.length := by
    rcases h3 with rfl | h3
    · exact Nat.sub_eq_zero_of_le hle
    · rw [List.length_append, h3, Nat.add_sub_cancel]
  refine ⟨h1, ?_, h4, ?_⟩
  · rw [hk, List.drop_left]
  · rw [hk, List.take_left]; exact h5

theorem Windowed.push {w : Nat} {s : State} {okl : List Bool} (h : Windowed w s okl) (ok : Bool) :
    Windowed w (push w s ok) (okl ++ [ok]) := by
  obtain ⟨h1, hle, past, h2, h3, h4, h5⟩ := h
  subst h2
  have hlen : (past ++ s.win ++ [ok]).length = s.since + 1 := by rw [List.length_append, h1]; rfl
  by_cases hL : s.win.length < w
  · -- the window is not full yet: nothing leaves it
    rw [push_of_lt w s ok hL]
    refine ⟨hlen, by rw [List.length_append]; exact hL, past, List.append_assoc ..,
      h3.imp_right fun e => absurd e (Nat.ne_of_lt hL), ?_, h5⟩
    show s.sIn + b2n ok = (s.win ++ [ok]).count true
    rw [List.count_append, count_single, h4]
  · -- the window is full: its oldest element moves to the past
    cases hwin : s.win ++ [ok] with
    | nil => exact absurd hwin (List.append_ne_nil_of_right_ne_nil _ (List.cons_ne_nil _ _))
    | cons hd tl =>
      rw [push_of_ge w s ok (Nat.le_of_not_lt hL) hwin]
      have hcnt := congrArg (List.count true) hwin
      rw [List.count_append, count_single, ← h4, ← List.singleton_append, List.count_append, count_single] at hcnt
      have htl : tl.length = w := by
        have := congrArg List.length hwin
        rw [List.length_append, List.length_cons, Nat.le_antisymm hle (Nat.le_of_not_lt hL)] at this
        exact (Nat.succ_inj.1 this).symm
      refine ⟨hlen, Nat.le_of_eq htl, past ++ [hd], ?_, Or.inr htl, ?_, ?_⟩
      · rw [List.append_assoc, hwin, List.append_assoc]; rfl
      · show s.sIn + b2n ok - b2n hd = tl.count true
        rw [hcnt]; exact Nat.add_sub_cancel_left ..
      · show s.rPast + b2n hd = (past ++ [hd]).count true
        rw [List.count_append, count_single, h5]

section anyCarrier
variable {α : Type} [Add α] [Sub α] [Mul α] [Div α] [Neg α] [LT α] [DecidableLT α] [NatCast α] [HasSqrt α]

theorem stepd_step_untested (c : Cfg α) (s : State) (e : Bool) (h : (pre s).since + 1 < 2 * c.window) :
    step c s e = push c.window (pre s) (!e) :=
  core_untested_eq c _ e h

/-- **Decision table, tested rows (every carrier)**: from `2 * window_size` samples on the
    state is the outcome of the test on the updated counters; `retraining_recs` is
    cleared on `None`, started at the current index or extended otherwise. -/
theorem stepd_step_tested (c : Cfg α) (s : State) (e : Bool) (h : 2 * c.window ≤ (pre s).since + 1) :
    (step c s e).drift = decide3 c (push c.window (pre s) (!e)) ∧
    (step c s e).sIn = (push c.window (pre s) (!e)).sIn ∧
    (step c s e).rPast = (push c.window (pre s) (!e)).rPast ∧
    (step c s e).win = (push c.window (pre s) (!e)).win ∧
    (step c s e).total = s.total + 1 ∧ (step c s e).since = (pre s).since + 1 ∧
    (step c s e).recs =
      (if decide3 c (push c.window (pre s) (!e)) = .none then Recs.empty
       else incRecsRun s.total (pre s).recs) := by
  obtain ⟨h1, h2, -, h4⟩ := push_fields c.window (pre s) (!e)
  rw [step_eq, core_tested_eq c _ e h]
  exact ⟨rfl, rfl, rfl, rfl, h1.trans (congrArg (· + 1) (pre_total s)), h2,
    by dsimp only; rw [h4, pre_total]⟩

/-- **`retraining_recs` (every carrier).**  After any history it is `[None, None]` while
    the state is `None`; otherwise `[a, k]` where `k` is the index of the latest update
    and `a` the index at which the current uninterrupted warning/drift run began
    (so `[k, k]` for a drift that no warning preceded); cleared by the update after
    the drift. -/
theorem stepd_recs_semantics (c : Cfg α) (xs : List Bool) : RunSem (step c) init obs xs :=
  runSem _ _ _ (counters c) (runRule c) xs

theorem stepd_quiet_before_threshold (c : Cfg α) (xs : List Bool) :
    (run c xs).since < 2 * c.window → (run c xs).drift = .none ∧ (run c xs).recs = Recs.empty := by
  intro h
  obtain ⟨g1, g2⟩ : Inv c (run c xs) := (runRule c).inv_run xs
  have hd : (run c xs).drift = .none := by
    by_contra hd
    exact absurd (g1 hd) (Nat.not_le.2 h)
  exact ⟨hd, g2 hd⟩

/-- **STEPD's counters (every carrier; Nat-valued).**  After any history, with `okl` the
    outcomes (`true` = correct) of the current epoch: `_window` holds its last
    `window_size` entries, `_s` is the number of correct predictions inside that window
    and `_r` the number of correct predictions before it in the epoch — so
    `recent_accuracy()`, `past_accuracy()`, `overall_accuracy()` are the corresponding
    fractions of correct predictions. -/
theorem stepd_counts (c : Cfg α) (xs : List Bool) :
    WinSem c.window (run c xs) ((epoch (step c) init obs xs).map (!·)) :=
  (epoch_induction (step c) init obs (counters c) (core c) reset (fun _ _ => rfl)
    (fun s ep => Windowed c.window s (ep.map (!·)))
    (fun s ep x hW => by
      -- `core` leaves the counters and the window as `push` has set them
      obtain ⟨-, c1, c2, c3, c4⟩ := core_window c s x
      rw [List.map_append]
      unfold Windowed
      rw [c1, c2, c3, c4, ← (push_fields c.window s (!x)).2.1]
      exact hW.push (!x))
    (fun _ => ⟨rfl, Nat.zero_le _, [], rfl, Or.inl rfl, rfl, rfl⟩)
    ⟨rfl, Nat.zero_le _, [], rfl, Or.inl rfl, rfl, rfl⟩ xs).winSem

end anyCarrier

section accuracies
variable {α : Type} [Div α] [NatCast α]

theorem stepd_accuracies (s : State) (h1 : s.win.length ≠ 0) (h2 : s.since - s.win.length ≠ 0) (h3 : s.since ≠ 0) :
    (recentAcc s : α) = (s.sIn : α) / (s.win.length : α) ∧
    (pastAcc s : α) = (s.rPast : α) / ((s.since - s.win.length : Nat) : α) ∧
    (overallAcc s : α) = ((s.rPast + s.sIn : Nat) : α) / (s.since : α) := by
  simp [recentAcc, pastAcc, overallAcc, h1, h2, h3]

end accuracies
end STEPD

end MV
