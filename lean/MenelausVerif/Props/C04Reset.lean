/-
  C04 — a manual `reset()` between updates restarts the epoch and touches nothing else.

  `Cusum.reset_frame`: `target`, `sd_hat`, the retained stream and the total counter are unchanged; the
  epoch counter, the drift state and both cumulative sums restart.  `Cusum.reset_prep`: the update
  after a manual reset never re-estimates (`prep` is the identity on `reset s`, whatever `s` reported),
  so a user-supplied or estimated standardisation survives a manual reset.  `PH.reset_frame` likewise.
  Law-free: valid for every carrier, hence for the executed `Float` instance.
-/
import MenelausVerif.Model.Cusum
import MenelausVerif.Model.PageHinkley
set_option linter.unusedSectionVars false

namespace MV.Cusum
variable {α : Type} [Add α] [Sub α] [Mul α] [Div α] [LT α] [DecidableLT α] [NatCast α] [BEq α] [HasSqrt α]

theorem reset_frame (s : State α) :
    (reset s).target = s.target ∧ (reset s).sd = s.sd ∧ (reset s).hist = s.hist ∧ (reset s).total = s.total ∧
    (reset s).since = 0 ∧ (reset s).drift = .none ∧ (reset s).sh = zero ∧ (reset s).sl = zero :=
  ⟨rfl, rfl, rfl, rfl, rfl, rfl, rfl, rfl⟩

theorem reset_prep (c : Cfg α) (s : State α) : prep c (reset s) = reset s :=
  if_neg nofun

theorem reset_idem (s : State α) : reset (reset s) = reset s := rfl
end MV.Cusum

namespace MV.PH
variable {α : Type} [Add α] [Sub α] [Mul α] [Div α] [LT α] [DecidableLT α] [NatCast α]

theorem reset_frame (s : State α) :
    (reset s).total = s.total ∧ (reset s).since = 0 ∧ (reset s).drift = .none ∧
    (reset s).mean = zero ∧ (reset s).sum = zero ∧ (reset s).mn = zero ∧ (reset s).mx = zero :=
  ⟨rfl, rfl, rfl, rfl, rfl, rfl, rfl⟩

theorem reset_idem (s : State α) : reset (reset s) = reset s := rfl
end MV.PH
