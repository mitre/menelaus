/-
  C08 over ℝ (`log` = `Real.log`, `Lemmas/KdqReal.lean`): `kl_distance` of the kdq-tree partitioner is the Kullback-Leibler
  divergence `Σ p log (p / q)` of the corrected leaf distributions, non-negative (Gibbs), zero between ids with equal
  leaf counts.
-/
import MenelausVerif.Lemmas.KdqReal
namespace MV.Kdq

section real

/-- `kl_distance` is the Kullback-Leibler divergence `Σ p log (p / q)` of the corrected leaf
    distributions (scipy's normalisation is the identity because they sum to one) -/
theorem kl_is_divergence (c1 c2 : List Nat) (h1 : c1 ≠ []) (h2 : c2 ≠ []) :
    (klCounts c1 c2 : ℝ) =
      (List.zipWith (fun p q => p * Real.log (p / q)) (distnFromCounts c1 : List ℝ) (distnFromCounts c2)).sum := by
  unfold klCounts
  rw [entropy_eq_sum (distn_sum_one h1) (distn_sum_one h2),
    zipWith_relEntr_eq _ _ (distn_pos c1) (distn_pos c2)]

/-- Gibbs: the divergence is non-negative -/
theorem kl_nonneg (c1 c2 : List Nat) (h : c1.length = c2.length) : 0 ≤ (klCounts c1 c2 : ℝ) :=
  entropy_nonneg (by simp [distn_length, h]) (distn_pos c1) (distn_pos c2)

theorem kl_self (c : List Nat) : (klCounts c c : ℝ) = 0 := entropy_self (distn_pos c)

theorem klDistance?_ok {β : Type} {t : Tree β} {id1 id2 : Nat} {v : ℝ} (h : klDistance? t id1 id2 = .ok v) :
    v = klCounts (leafCountsD t id1) (leafCountsD t id2) := by
  unfold klDistance? at h
  split at h
  · cases h
  · split at h <;> cases h
    rfl

/-- `kl_distance(id1, id2)` of a partitioner, whenever it returns a value, is ≥ 0 -/
theorem kl_distance_nonneg {β : Type} (t : Tree β) (id1 id2 : Nat) (v : ℝ)
    (h : klDistance? t id1 id2 = .ok v) : 0 ≤ v :=
  klDistance?_ok h ▸ kl_nonneg _ _ (by simp [leafCountsD])

/-- `kl_distance(id1, id2)` is 0 when the two ids have equal leaf counts (in particular `kl_distance(id, id) = 0`) -/
theorem kl_distance_equal_counts {β : Type} (t : Tree β) (id1 id2 : Nat) (v : ℝ)
    (he : leafCountsD t id1 = leafCountsD t id2) (h : klDistance? t id1 id2 = .ok v) : v = 0 := by
  rw [klDistance?_ok h, he]; exact kl_self _

end real

end MV.Kdq
