/-
  C03 over `ℝ` (`sqrt := Real.sqrt`, `log := Real.log`): ADWIN's epsilon-cut is antitone in `delta`, for both
  bounds, so a split that exceeds the cut under a stricter `delta` exceeds it under a looser one (used by C17,
  `Props/C17Adwin.lean`).
-/
import MenelausVerif.Model.Adwin
import Mathlib.Analysis.SpecialFunctions.Log.Basic
namespace MV.Adwin

section real
/-- the real instance of the model's `sqrt` / `log` / `exp` -/
noncomputable local instance realHasSqrt : HasSqrt ℝ := ⟨Real.sqrt⟩
noncomputable local instance realHasLogExp : HasLogExp ℝ := ⟨Real.log, Real.exp⟩

theorem nHarmonic_pos (k n0 n1 : Nat) : (0 : ℝ) < nHarmonic k n0 n1 := by
  unfold nHarmonic; positivity

/-- for a window of at least two samples (`log W > 0`), non-negative variance and
    `0 < δ₁ ≤ δ₂`: `eps_cut(δ₂) ≤ eps_cut(δ₁)`, for both bounds -/
theorem epsCut_antitone_delta (c : Cfg ℝ) (d1 d2 : ℝ) (h1 : 0 < d1) (h12 : d1 ≤ d2)
    (W : Nat) (hW : 2 ≤ W) (v : ℝ) (hv : 0 ≤ v) (n0 n1 : Nat) :
    epsCut { c with delta := d2 } W v n0 n1 ≤ epsCut { c with delta := d1 } W v n0 n1 := by
  have hnh := nHarmonic_pos c.subThresh n0 n1
  have hlogW : 0 < Real.log ((W : Nat) : ℝ) := Real.log_pos (by exact_mod_cast hW)
  have hd2 : 0 < d2 := lt_of_lt_of_le h1 h12
  have hmono : ∀ a : Nat, 0 < a → Real.log (a * Real.log ((W : Nat) : ℝ) / d2) ≤
      Real.log (a * Real.log ((W : Nat) : ℝ) / d1) := fun a ha =>
    have : (0 : ℝ) < a := Nat.cast_pos.mpr ha
    Real.log_le_log (by positivity) (div_le_div_of_nonneg_left (by positivity) h1 h12)
  unfold epsCut
  simp only [log, sqrt]
  split
  · exact Real.sqrt_le_sqrt (mul_le_mul_of_nonneg_left (hmono 4 (by omega)) (by positivity))
  · exact add_le_add (Real.sqrt_le_sqrt (mul_le_mul_of_nonneg_left (hmono 2 (by omega)) (by positivity)))
      (mul_le_mul_of_nonneg_left (hmono 2 (by omega)) (by positivity))

/-- hence a split that exceeds the cut for the stricter `δ₁` also exceeds it for the looser `δ₂`
    (same state: window of at least two samples with non-negative variance) -/
theorem checkEps_mono_delta (c : Cfg ℝ) (d1 d2 : ℝ) (h1 : 0 < d1) (h12 : d1 ≤ d2) (s : State ℝ)
    (hW : 2 ≤ s.W) (hv : 0 ≤ s.var) (n0 n1 : Nat) (t0 t1 : ℝ)
    (h : checkEps { c with delta := d1 } s n0 t0 n1 t1 = true) :
    checkEps { c with delta := d2 } s n0 t0 n1 t1 = true := by
  have hvar : 0 ≤ variance s := by
    unfold variance; split <;> positivity
  simp only [checkEps, decide_eq_true_eq] at h ⊢
  exact lt_of_le_of_lt (epsCut_antitone_delta c d1 d2 h1 h12 s.W hW _ hvar n0 n1) h

end real

end MV.Adwin
