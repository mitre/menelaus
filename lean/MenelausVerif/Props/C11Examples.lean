/-
  C11, non-vacuity over `ℚ`: the intersection divergence and its clamp on concrete vectors, `winsor`, a
  floor-based `HasTrunc ℚ` under which the hypothesis `htr` of `counts_total` holds, and a projected window
  `Within` its support.  (The `Int` demo run `exCfg`, `exInputs` is in `Props/C11.lean`.)
-/
import MenelausVerif.Props.C11
import Mathlib.Data.Rat.Floor
namespace MV.PCACD
open MV

example : interDiv ([1/2, 1/2] : List ℚ) [1/2, 1/2] = 0 :=
  intersection_self _ (by decide +kernel)

example : interDiv ([1, 0] : List ℚ) [0, 1] = 1 := by decide +kernel
-- the clamp at work: vectors that are not distributions (Σ min = 3/2 > 1) give 0, not -1/2
example : rawInterDiv ([1, 1/2] : List ℚ) [1, 1/2] = -1/2 ∧ interDiv ([1, 1/2] : List ℚ) [1, 1/2] = 0 := by
  decide +kernel
example : ¬ ((zero : ℚ) < zero) := by simp [zero]

example : (0 : ℚ) ≤ interDiv ([1/4, 3/4] : List ℚ) [1/2, 1/2] ∧ interDiv ([1/4, 3/4] : List ℚ) [1/2, 1/2] ≤ 1 :=
  intersection_range _ _ (by decide +kernel) (by decide +kernel) (by decide +kernel)

example : winsor (0 : ℚ) 1 (3/2) = 1 ∧ winsor (0 : ℚ) 1 (-1) = 0 ∧ winsor (0 : ℚ) 1 (1/3) = 1/3 := by
  decide +kernel

/-- floor: agrees with truncation toward zero on the non-negative arguments the model passes, so
    the hypothesis `htr` of `counts_total` is satisfiable -/
instance : HasTrunc ℚ := ⟨fun q => ⌊q⌋⟩
example : ∀ y : ℚ, 0 ≤ y → ((truncInt y : Int) : ℚ) ≤ y := fun y _ => Int.floor_le y

example : Within ([0] : List ℚ) [1] [[0, 1/2, 1]] := by
  intro i lo hi col h1 h2 h3
  cases i with
  | zero =>
    simp only [List.getElem?_cons_zero, Option.some.injEq] at h1 h2 h3
    subst h1 h2 h3
    decide +kernel
  | succ n => simp at h1

end MV.PCACD
