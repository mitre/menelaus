/-
  C07 — HDDDM / CDBD alarm exactly when the distance change exceeds the adaptive bound.

  Model: Model/HDM.lean (carrier-polymorphic; executed at `Float` by the driver).  What one call does, and with it
  the drift decision, the counters and the reference update of the public call for every carrier (no arithmetic
  law, so they hold for the executed `Float` instance), is in Lemmas/HDMStep.lean.  Here: the recorded distance
  (every carrier); the first arg-max behind `feature_info` (linear orders); ε and β as documented, over every
  history (ordered fields, invariant `EpsInv`).  Over ℝ, Hellinger and Jensen-Shannon are 0 on equal histograms,
  symmetric and bounded, and histograms count every row: Props/C07Real.lean.
  Not covered by a theorem: rounding of the `Float` instance (where the ±1 edge corrections of `np.histogram`
  matter — tied to numpy by the correspondence check on adversarial inputs); the `t` critical value (an input of
  the model); the bootstrap estimate is an input here and modelled in Props/C07Boot.lean.
-/
import MenelausVerif.Lemmas.HDMStep
import MenelausVerif.Lemmas.HDMField
namespace MV.HDM
open MV
-- statements below take every instance argument of their section, used or not (`#check` before using one at a new carrier)
set_option linter.unusedSectionVars false

section anyCarrier
variable {α : Type} [Add α] [Sub α] [Mul α] [Div α] [Neg α] [LT α] [DecidableLT α]
  [LE α] [DecidableLE α] [NatCast α] [BEq α] [HasSqrt α] [HasLogExp α] [HasLog1p α] [HasTrunc α]

theorem hist_length (bins : Nat) (lo hi : α) (xs : List α) : (hist bins lo hi xs).length = bins := by
  simp [hist]

theorem hist_perm' (bins : Nat) (lo hi : α) {xs xs' : List α} (h : xs.Perm xs') :
    hist bins lo hi xs = hist bins lo hi xs' := by
  unfold hist binIndices
  apply List.map_congr_left
  intro k _
  exact ((h.filter _).map _).count_eq k

/-- **The recorded distance** — after an accepted `update` from any reachable state,
    `current_distance` (also stored as `distances[total_batches]`) is the feature average of the
    per-feature distances between the histograms of the reference (for a state flagged `drift`:
    the batch that was flagged) and of the batch, built on the common range of both with
    `floor(sqrt(reference size))` bins. -/
theorem update_distance (c : Cfg α) (o : Oracle α) (s s' : State α) (X : List (List α))
    (hi : Inv s) (h : update c o s X = some s') :
    ∃ dim, s'.dim = some dim ∧
      s'.curDist = some (average dim
        (featureDistances c.div dim (Nat.sqrt s.reference.length) s.reference X)) ∧
      s'.distances.getLast? = some (s'.total, average dim
        (featureDistances c.div dim (Nat.sqrt s.reference.length) s.reference X)) := by
  obtain ⟨s0, d, -, -, rfl, hi0, hn, hr0, href⟩ := update_eq_some_of_inv hi h
  have hd : stepDist c s0 d X =
      average d (featureDistances c.div d (Nat.sqrt s.reference.length) s.reference X) := by
    rw [stepDist, stepFd, (hi0.refOk hn hr0).2, href]
  rw [updateCore_eq]
  exact ⟨d, rfl, congrArg some hd, by dsimp only; rw [List.getLast?_concat, hd]⟩

end anyCarrier

section order
variable {K : Type} [LinearOrder K]

theorem minOf_least [NatCast K] (l : List K) (hne : l ≠ []) : minOf l ∈ l ∧ ∀ y ∈ l, minOf l ≤ y := by
  cases l with
  | nil => exact absurd rfl hne
  | cons x xs => exact foldl_pick_spec le_refl (fun _ _ _ => le_trans) pyMin_pick xs x

theorem maxOf_greatest [NatCast K] (l : List K) (hne : l ≠ []) : maxOf l ∈ l ∧ ∀ y ∈ l, y ≤ maxOf l := by
  cases l with
  | nil => exact absurd rfl hne
  | cons x xs =>
    exact foldl_pick_spec (r := (· ≥ ·)) le_refl (fun _ _ _ h h' => le_trans h' h) pyMax_pick xs x

/-- prepending a smaller value moves the first position of the maximum by one -/
theorem lt_before_succ {x m : K} {xs : List K} {j : Nat} (hx : x < m)
    (h : ∀ j' y, j' < j → xs[j']? = some y → y < m) :
    ∀ j' y, j' < j + 1 → (x :: xs)[j']? = some y → y < m
  | 0, _, _, hy => Option.some.inj hy ▸ hx
  | n + 1, y, hj', hy => h n y (Nat.lt_of_succ_lt_succ hj') hy

/-- scanning `l` with best value `b` so far (found at `bi`, before position `i`): either nothing in
    `l` beats `b`, or the result is the first position of `l` holding its maximum, which beats `b` -/
theorem argmaxFrom_spec (l : List K) (b : K) (bi i : Nat) :
    (argmaxFrom b bi i l = bi ∧ ∀ x ∈ l, x ≤ b) ∨
    ∃ j m, argmaxFrom b bi i l = i + j ∧ l[j]? = some m ∧ b < m ∧ (∀ x ∈ l, x ≤ m) ∧
      ∀ j' x, j' < j → l[j']? = some x → x < m := by
  induction l generalizing b bi i with
  | nil => exact Or.inl ⟨rfl, fun _ h => nomatch h⟩
  | cons x xs ih =>
    rw [argmaxFrom]
    split
    · rename_i hlt
      right
      rcases ih x i (i + 1) with ⟨hk, hall⟩ | ⟨j, m, hk, hm, hxm, hall, hfirst⟩
      · exact ⟨0, x, hk, rfl, hlt, List.forall_mem_cons.2 ⟨le_rfl, hall⟩,
          fun _ _ h => absurd h (Nat.not_lt_zero _)⟩
      · exact ⟨j + 1, m, hk.trans (Nat.add_right_comm i 1 j), hm, hlt.trans hxm,
          List.forall_mem_cons.2 ⟨hxm.le, hall⟩, lt_before_succ hxm hfirst⟩
    · rename_i hnlt
      have hxb : x ≤ b := not_lt.1 hnlt
      rcases ih b bi (i + 1) with ⟨hk, hall⟩ | ⟨j, m, hk, hm, hbm, hall, hfirst⟩
      · exact Or.inl ⟨hk, List.forall_mem_cons.2 ⟨hxb, hall⟩⟩
      · exact Or.inr ⟨j + 1, m, hk.trans (Nat.add_right_comm i 1 j), hm, hbm,
          List.forall_mem_cons.2 ⟨hxb.trans hbm.le, hall⟩, lt_before_succ (lt_of_le_of_lt hxb hbm) hfirst⟩

/-- `argmaxFirst l` is a position of `l` holding a maximum, and every earlier position holds a strictly smaller
    value.  `update` applies it to the per-feature ε's (`updateCore_feature_info`); that this list has `dim`
    entries, so that `feature_info` names the first feature with the largest ε, needs `prevFeat.length = dim` in
    the reachable states, which no invariant here records. -/
theorem argmaxFirst_spec (l : List K) (hne : l ≠ []) :
    ∃ m, l[argmaxFirst l]? = some m ∧ (∀ (j : Nat) (x : K), l[j]? = some x → x ≤ m) ∧
      (∀ (j : Nat) (x : K), j < argmaxFirst l → l[j]? = some x → x < m) := by
  cases l with
  | nil => exact absurd rfl hne
  | cons x xs =>
    rw [argmaxFirst]
    rcases argmaxFrom_spec xs x 0 1 with ⟨hk, hall⟩ | ⟨j, m, hk, hm, hxm, hall, hfirst⟩
    · have hall' : ∀ z ∈ x :: xs, z ≤ x := List.forall_mem_cons.2 ⟨le_rfl, hall⟩
      rw [hk]
      exact ⟨x, rfl, fun j y hy => hall' y (List.mem_of_getElem? hy), fun _ _ h => absurd h (Nat.not_lt_zero _)⟩
    · have hall' : ∀ z ∈ x :: xs, z ≤ m := List.forall_mem_cons.2 ⟨hxm.le, hall⟩
      rw [hk, Nat.add_comm]
      exact ⟨m, hm, fun j y hy => hall' y (List.mem_of_getElem? hy), lt_before_succ hxm hfirst⟩

end order

section threshold
variable {K : Type} [Field K] [HasSqrt K]

def meanOf (l : List K) (d : Nat) : K := l.sum / (d : K)
def devOf (l : List K) (d : Nat) : K := sqrt ((l.map (fun e => (e - meanOf l d) ^ 2)).sum / (d : K))
/-- the documented threshold of a batch: mean of the past ε's of the epoch plus the scaled deviation, both
    with the code's divisor `d` -/
def betaSpec (c : Cfg K) (tcrit : K) (l : List K) (d : Nat) : K :=
  match c.stat with
  | .tstat => meanOf l d + tcrit * (devOf l d / sqrt (d : K))
  | .stdev => meanOf l d + c.signif * devOf l d

/-- `_adaptive_threshold` after the ε-list surgery: what it computes from the list `eps` and the
    running sum `totalEps` it then works with, and the divisor `d` -/
def thrCore (c : Cfg K) (tcrit : K) (d : Nat) (eps : List K) (totalEps : K) : Thr K :=
  let totalEps2 := totalEps + penult eps
  let epsHat := ((one : K) / (d : K)) * totalEps2
  let stdev := sqrt (sumF (eps.dropLast.map (fun e => sq (e - epsHat))) / (d : K))
  { eps := eps, totalEps := totalEps2, dScale := d, epsHat := epsHat, stdev := stdev,
    beta := match c.stat with
      | .tstat => epsHat + tcrit * (stdev / sqrt (d : K))
      | .stdev => epsHat + c.signif * stdev }

theorem adaptive_eq (c : Cfg K) (tcrit : K) (since total lambda : Nat) (eps : List K) (totalEps : K) :
    adaptive c tcrit since total lambda eps totalEps =
      thrCore c tcrit (if since == 2 && c.detectBatch != 3 then 1 else total - lambda - 1)
        (if since == 3 && c.detectBatch != 3 then eps.tail else eps)
        (if since == 3 && c.detectBatch != 3 then totalEps - eps.head?.getD zero else totalEps) := rfl

theorem thrCore_dScale (c : Cfg K) (tcrit : K) (d : Nat) (eps : List K) (totalEps : K) :
    (thrCore c tcrit d eps totalEps).dScale = d := rfl

/-- Started with the running sum of all past ε's but the last, on the list of the past ε's and this
    batch's ε, `thrCore` leaves the sum of the past ε's, and its β is their documented threshold. -/
theorem thrCore_spec (c : Cfg K) (tcrit : K) (d : Nat) (past : List K) (x : K) (hne : past ≠ []) :
    (thrCore c tcrit d (past ++ [x]) past.dropLast.sum).eps = past ++ [x] ∧
    (thrCore c tcrit d (past ++ [x]) past.dropLast.sum).totalEps = past.sum ∧
    (thrCore c tcrit d (past ++ [x]) past.dropLast.sum).beta = betaSpec c tcrit past d := by
  have hsum : past.dropLast.sum + penult (past ++ [x]) = past.sum := by
    conv_rhs => rw [← List.dropLast_append_getLast hne]
    rw [penult, List.dropLast_concat, List.getLast?_eq_some_getLast hne, List.sum_append, List.sum_singleton]
    rfl
  have hm : (1 : K) / (d : K) * past.sum = meanOf past d := by
    rw [meanOf, one_div, inv_mul_eq_div]
  refine ⟨rfl, hsum, ?_⟩
  cases hst : c.stat <;>
    simp only [thrCore, betaSpec, devOf, hst, List.dropLast_concat, hsum, one_eq, hm, sumF_eq, sq, pow_two]

end threshold

section field
variable {K : Type} [Field K]

/-- the real (non-bootstrap) ε's of the current epoch held in `self.epsilon` -/
def realEps (c : Cfg K) (s : State K) : List K :=
  if s.since = 2 ∧ c.detectBatch ≠ 3 then s.eps.tail else s.eps

/-- the ε's that enter the threshold of the next batch: the bootstrap value alone on the second
    batch of an epoch, afterwards the real ε's of the epoch so far -/
def pastEps (c : Cfg K) (o : Oracle K) (s : State K) : List K :=
  if s.since = 1 ∧ c.detectBatch ≠ 3 then [o.eps0] else realEps c s

/-- What the ε bookkeeping of `update` keeps.  `total`: the running sum lags one entry behind the list, because
    `_adaptive_threshold` adds `epsilon[-2]` only when it next computes a threshold.  `len`: one ε per batch from
    the epoch's second on, plus the bootstrap value, which is in the list on that second batch only (the third
    drops it).  `recorded`: the real ε's of the epoch are the last entries of the public `epsilon_values`. -/
structure EpsInv (c : Cfg K) (s : State K) : Prop where
  total : s.totalEps = s.eps.dropLast.sum
  len : s.eps.length = (s.since - 1) + (if s.since = 2 ∧ c.detectBatch ≠ 3 then 1 else 0)
  recorded : realEps c s <:+ s.epsValues.map Prod.snd

theorem EpsInv.eps_nil {c : Cfg K} {s : State K} (hJ : EpsInv c s) (h : s.since ≤ 1) : s.eps = [] :=
  List.eq_nil_of_length_eq_zero (by rw [hJ.len, if_neg (by omega)]; omega)

theorem EpsInv.realEps_length {c : Cfg K} {s : State K} (hJ : EpsInv c s) :
    (realEps c s).length = s.since - 1 := by
  rw [realEps]
  split
  · rename_i h; rw [List.length_tail, hJ.len, if_pos h]; omega
  · rename_i h; rw [hJ.len, if_neg h, Nat.add_zero]

/-- before the second batch of an epoch there is no ε yet -/
theorem EpsInv.of_nil {c : Cfg K} {s : State K} (he : s.eps = []) (ht : s.totalEps = 0) (hs : s.since ≤ 1) :
    EpsInv c s := by
  refine ⟨by rw [ht, he]; rfl, ?_, by rw [realEps, he]; simp⟩
  rw [he, if_neg (by omega), List.length_nil]
  omega

theorem epsInv_init (c : Cfg K) : EpsInv c (init : State K) :=
  .of_nil rfl zero_eq (Nat.zero_le 1)

/-- Where the drift test is due, the ε list has one of three shapes: empty on the epoch's second batch
    (which bootstraps); the bootstrap value and one real ε on the third batch of such an epoch; the
    real ε's of the epoch, at least one, otherwise. -/
theorem EpsInv.due_cases {c : Cfg K} {s : State K} (hJ : EpsInv c s)
    (ht : testsDrift c (s.since + 1) = true) :
    (s.since = 1 ∧ c.detectBatch ≠ 3 ∧ s.eps = []) ∨
    (s.since = 2 ∧ c.detectBatch ≠ 3 ∧ ∃ e0 c2, s.eps = [e0, c2]) ∨
    (2 ≤ s.since ∧ ¬ (s.since = 2 ∧ c.detectBatch ≠ 3) ∧ s.eps ≠ []) := by
  have hd := (testsDrift_true_iff c (s.since + 1)).1 ht
  have hlen := hJ.len
  by_cases hB : s.since = 2 ∧ c.detectBatch ≠ 3
  · rw [if_pos hB, hB.1] at hlen
    exact Or.inr (Or.inl ⟨hB.1, hB.2, List.length_eq_two.1 hlen⟩)
  · rw [if_neg hB, Nat.add_zero] at hlen
    by_cases h1 : s.since = 1
    · exact Or.inl ⟨h1, by omega, hJ.eps_nil h1.le⟩
    · refine Or.inr (Or.inr ⟨by omega, hB, fun he => ?_⟩)
      rw [he, List.length_nil] at hlen
      omega

variable [LinearOrder K] [IsStrictOrderedRing K] [BEq K] [HasSqrt K] [HasLogExp K] [HasLog1p K] [HasTrunc K]

theorem adaptive_general (c : Cfg K) (tcrit : K) (since total lambda : Nat) (eps : List K) (totalEps : K) :
    let th := adaptive c tcrit since total lambda eps totalEps
    th.beta = (match c.stat with
      | .tstat => th.epsHat + tcrit * (th.stdev / sqrt (th.dScale : K))
      | .stdev => th.epsHat + c.signif * th.stdev) := by
  rw [adaptive_eq]
  cases hst : c.stat <;> simp only [thrCore, hst]

/-- **β as coded**, in every state that satisfies the ε invariant (the lifecycle invariant `Inv` plays no part):
    where the test is due the threshold is the documented one of the past ε's with the code's divisor `d_scale`,
    the list keeps the past ε's and this batch's, the running sum is that of the past ε's. -/
theorem stepThr_spec (c : Cfg K) (o : Oracle K) (s : State K) (dim : Nat) (X : List (List K))
    (hJ : EpsInv c s) (ht : testsDrift c (s.since + 1) = true) :
    let th := stepThr c o s dim X
    th.eps = pastEps c o s ++ [stepEps c s dim X] ∧
    th.totalEps = (pastEps c o s).sum ∧
    th.beta = betaSpec c o.tcrit (pastEps c o s) th.dScale := by
  intro th
  have htot := hJ.total
  rcases hJ.due_cases ht with ⟨h1, hdb, he⟩ | ⟨h2, hdb, e0, c2, he⟩ | ⟨h2, hB, hne⟩
  · -- second batch of the epoch: the bootstrap value is the only past ε
    simpa [th, stepThr, adaptive_eq, thrCore_dScale, stepEpsList, pastEps, h1, hdb, he, htot] using
      thrCore_spec c o.tcrit 1 [o.eps0] (stepEps c s dim X) (List.cons_ne_nil _ _)
  · -- third batch: the surgery drops the bootstrap value and takes it out of the running sum
    simpa [th, stepThr, adaptive_eq, thrCore_dScale, stepEpsList, pastEps, realEps, h2, hdb, he, htot] using
      thrCore_spec c o.tcrit (s.total + 1 - s.lambda - 1) [c2] (stepEps c s dim X) (List.cons_ne_nil _ _)
  · -- later batches (or the third for `detect_batch = 3`): no bootstrap value in the list
    have h1 : ¬ s.since = 1 := fun h => absurd (h ▸ h2) (by decide)
    have hb2 : (s.since + 1 == 2 && c.detectBatch != 3) = false := by simp [h1]
    have hb3 : (s.since + 1 == 3 && c.detectBatch != 3) = false := by
      simpa using fun h : s.since + 1 = 3 => not_not.1 fun h3 => hB ⟨Nat.succ.inj h, h3⟩
    have hp : pastEps c o s = s.eps := by rw [pastEps, if_neg (fun h => h1 h.1), realEps, if_neg hB]
    simp only [th, stepThr, adaptive_eq, thrCore_dScale, stepEpsList, hb2, hb3, Bool.false_eq_true, if_false,
      htot, hp]
    exact thrCore_spec c o.tcrit _ s.eps (stepEps c s dim X) hne

/-- **β as documented/coded.**  In an epoch state satisfying the invariants, the threshold computed
    on the next batch is `ε̂ + t·σ/√d` (`tstat`) resp. `ε̂ + s·σ` (`stdev`), where `ε̂ = Σ past / d`,
    `σ = √(Σ (e − ε̂)² / d)`, `past` = the ε's of the epoch before this batch (the bootstrap value
    alone on the epoch's second batch — it is dropped on the third) and `d` = the number of
    batches of the epoch before this one (`t − λ − 1`; `1` on the second batch). -/
theorem beta_def (c : Cfg K) (o : Oracle K) (s : State K) (dim : Nat) (X : List (List K))
    (hJ : EpsInv c s) (hep : s.total = s.lambda + s.since)
    (ht : testsDrift c (s.since + 1) = true) :
    let th := stepThr c o s dim X
    th.eps = pastEps c o s ++ [stepEps c s dim X] ∧
    th.totalEps = (pastEps c o s).sum ∧
    th.beta = betaSpec c o.tcrit (pastEps c o s) s.since := by
  intro th
  obtain ⟨h1, h2, h3⟩ := stepThr_spec c o s dim X hJ ht
  refine ⟨h1, h2, h3.trans (congrArg _ ?_)⟩
  -- inside an epoch `d_scale`, 1 on the second batch and `total_batches − _lambda − 1` later, is `since`
  show (if (s.since + 1 == 2 && c.detectBatch != 3) = true then 1 else s.total + 1 - s.lambda - 1) = s.since
  split
  · rename_i hb
    exact (Nat.succ.inj (beq_iff_eq.1 (Bool.and_eq_true_iff.1 hb).1)).symm
  · rw [hep, Nat.add_assoc, Nat.add_sub_cancel_left, Nat.add_sub_cancel]

/-- From the epoch's second batch on, the ε list after the body of `update` is the past ε's followed by
    this batch's ε, and the running sum is that of the past ε's — whether or not the test ran. -/
theorem eps_after (c : Cfg K) (o : Oracle K) (s : State K) (dim : Nat) (X : List (List K))
    (hJ : EpsInv c s) (h1 : 1 ≤ s.since) :
    (updateCore c o s dim X).eps = pastEps c o s ++ [stepEps c s dim X] ∧
    (updateCore c o s dim X).totalEps = (pastEps c o s).sum := by
  rw [updateCore_eq]
  dsimp only
  by_cases ht : testsDrift c (s.since + 1) = true
  · rw [if_pos ht, if_pos ht]
    obtain ⟨hb1, hb2, -⟩ := stepThr_spec c o s dim X hJ ht
    exact ⟨hb1, hb2⟩
  · -- second batch with `detect_batch = 3`: ε is recorded, no threshold yet
    obtain ⟨h1', hdb⟩ : s.since = 1 ∧ c.detectBatch = 3 := by
      have := (testsDrift_true_iff c (s.since + 1)).not.1 ht
      omega
    have hnil : s.eps = [] := hJ.eps_nil h1'.le
    have hp : pastEps c o s = [] := by
      rw [pastEps, if_neg (fun h => h.2 hdb), realEps, if_neg (fun h => h.2 hdb), hnil]
    rw [if_neg ht, if_neg ht, if_pos (Nat.succ_le_succ h1), hp, hJ.total, hnil]
    simp [stepEpsList, hdb, hnil]

theorem updateCore_epsInv (c : Cfg K) (o : Oracle K) (s : State K) (dim : Nat) (X : List (List K))
    (hJ : EpsInv c s) : EpsInv c (updateCore c o s dim X) := by
  by_cases h0 : s.since = 0
  · -- first batch of the epoch: the ε list stays empty, nothing is recorded
    have hnil : s.eps = [] := hJ.eps_nil (h0.le.trans (Nat.zero_le 1))
    rw [updateCore_first c o dim X h0]
    exact .of_nil hnil (by rw [hJ.total, hnil]; rfl) le_rfl
  · have h1 : 1 ≤ s.since := Nat.pos_of_ne_zero h0
    obtain ⟨he, hte⟩ := eps_after c o s dim X hJ h1
    have hsn : (updateCore c o s dim X).since = s.since + 1 := (updateCore_counters c o s dim X).2
    have hev := (updateCore_records c o s dim X).2.2.1
    rw [if_pos (Nat.succ_le_succ h1)] at hev
    have htot : (updateCore c o s dim X).totalEps = (updateCore c o s dim X).eps.dropLast.sum := by
      rw [hte, he, List.dropLast_concat]
    by_cases hA : s.since = 1 ∧ c.detectBatch ≠ 3
    · -- second batch of an epoch that bootstraps: the list is `[ε₀, ε]`
      have hA' : s.since + 1 = 2 ∧ c.detectBatch ≠ 3 := ⟨congrArg (· + 1) hA.1, hA.2⟩
      rw [pastEps, if_pos hA] at he
      refine ⟨htot, ?_, ?_⟩
      · rw [he, hsn, if_pos hA', hA.1]; rfl
      · rw [realEps, he, hsn, hev, if_pos hA', List.map_append]
        exact List.suffix_append _ _
    · have hA' : ¬ (s.since + 1 = 2 ∧ c.detectBatch ≠ 3) := fun h => hA ⟨Nat.succ.inj h.1, h.2⟩
      rw [pastEps, if_neg hA] at he
      refine ⟨htot, ?_, ?_⟩
      · rw [he, hsn, List.length_append, hJ.realEps_length, if_neg hA', List.length_singleton,
          Nat.add_sub_cancel, Nat.sub_add_cancel h1, Nat.add_zero]
      · rw [realEps, he, hsn, hev, if_neg hA', List.map_append]
        exact List.suffix_append_self_iff.mpr hJ.recorded

theorem EpsInv.of_reset (c : Cfg K) (o : Oracle K) (s s' : State K) (h : reset c o s = some s') :
    EpsInv c s' := by
  have r := reset_spec h
  exact .of_nil r.eps (r.totalEps.trans zero_eq) (by rw [r.since]; split <;> omega)

theorem preState_epsInv (c : Cfg K) (o : Oracle K) (s s0 : State K) (hJ : EpsInv c s)
    (hp : preState c o s = some s0) : EpsInv c s0 := by
  rcases preState_cases hp with ⟨-, hp⟩ | ⟨-, rfl⟩
  exacts [EpsInv.of_reset c o s s0 hp, hJ]

theorem step_epsInv (c : Cfg K) (s s' : State K) (op : Op K) (hJ : EpsInv c s)
    (h : step c s op = some s') : EpsInv c s' := by
  cases op with
  | setRef X o =>
    obtain ⟨d, -, h⟩ := setReference_eq_some h
    exact EpsInv.of_reset c o _ s' h
  | batch X o =>
    obtain ⟨-, s0, d, hp, -, rfl⟩ := update_eq_some h
    exact updateCore_epsInv c o s0 d X (preState_epsInv c o s s0 hJ hp)

theorem run_epsInv (c : Cfg K) (ops : List (Op K)) (s s' : State K) (hi : Inv s) (hJ : EpsInv c s)
    (h : run c s ops = some s') : EpsInv c s' :=
  run_induction (EpsInv c) (step_epsInv c) ops s s' hJ h

/-- the conclusion of `update_beta` in every state that satisfies the two invariants (a caller that holds them
    needs no history from `init`) -/
theorem update_beta_of_inv (c : Cfg K) (o : Oracle K) (s s' : State K) (X : List (List K))
    (hi : Inv s) (hJ : EpsInv c s) (h : update c o s X = some s') (ht : testsDrift c s'.since = true) :
    ∃ past e, s'.thresholds.getLast? = some (s'.total, betaSpec c o.tcrit past (s'.since - 1)) ∧
      s'.epsValues.getLast? = some (s'.total, e) ∧
      ((s'.since = 2 ∧ past = [o.eps0]) ∨
       (s'.since ≥ 3 ∧ past.length = s'.since - 2 ∧ past ++ [e] <:+ s'.epsValues.map Prod.snd)) := by
  obtain ⟨s0, d, hp, -, rfl, hi0, hn, -, -⟩ := update_eq_some_of_inv hi h
  have hJ0 := preState_epsInv c o s s0 hJ hp
  rw [(updateCore_counters c o s0 d X).2] at ht ⊢
  obtain ⟨-, -, hb⟩ := beta_def c o s0 d X hJ0 (hi0.epoch hn) ht
  obtain ⟨he, hth⟩ := updateCore_due_records c o s0 d X ht
  rw [(updateCore_counters c o s0 d X).1, he, hth, hb, List.map_append]
  refine ⟨pastEps c o s0, stepEps c s0 d X, List.getLast?_concat .., List.getLast?_concat .., ?_⟩
  by_cases hA : s0.since = 1 ∧ c.detectBatch ≠ 3
  · exact Or.inl ⟨congrArg (· + 1) hA.1, if_pos hA⟩
  · have h2s : 2 ≤ s0.since := by
      have := (testsDrift_true_iff c (s0.since + 1)).1 ht
      omega
    rw [pastEps, if_neg hA]
    exact Or.inr ⟨Nat.succ_le_succ h2s, hJ0.realEps_length, List.suffix_append_self_iff.mpr hJ0.recorded⟩

/-- **The recorded threshold is the documented one — for every history.**  After any accepted
    history from a fresh detector, an accepted `update` on which the drift test is due records
    `thresholds[t] = ε̂ + t·σ/√d` (resp. `ε̂ + s·σ`) with `d = batches_since_reset − 1`, where the
    ε's entering `ε̂, σ` are: on the epoch's second batch the bootstrap estimate alone; afterwards
    exactly the `d − 1` values recorded in `epsilon_values` immediately before this batch's ε
    (the real ε's of the current epoch — the bootstrap value is dropped on the third batch). -/
theorem update_beta (c : Cfg K) (ops : List (Op K)) (s s' : State K) (o : Oracle K) (X : List (List K))
    (hrun : run c init ops = some s) (h : update c o s X = some s')
    (ht : testsDrift c s'.since = true) :
    ∃ past e, s'.thresholds.getLast? = some (s'.total, betaSpec c o.tcrit past (s'.since - 1)) ∧
      s'.epsValues.getLast? = some (s'.total, e) ∧
      ((s'.since = 2 ∧ past = [o.eps0]) ∨
       (s'.since ≥ 3 ∧ past.length = s'.since - 2 ∧ past ++ [e] <:+ s'.epsValues.map Prod.snd)) :=
  update_beta_of_inv c o s s' X (run_inv c ops init s inv_init hrun)
    (run_epsInv c ops init s inv_init (epsInv_init c) hrun) h ht

theorem eps_def (c : Cfg K) (s : State K) (dim : Nat) (X : List (List K)) :
    stepEps c s dim X = |stepDist c s dim X - s.prevDist| := by
  rw [stepEps, absOf_eq_abs, one_eq, mul_one]

end field

/-- `_bins = int(np.floor(np.sqrt(reference_n)))` -/
theorem bins_floor_sqrt (n : Nat) : Nat.sqrt n ^ 2 ≤ n ∧ n < (Nat.sqrt n + 1) ^ 2 :=
  ⟨Nat.sqrt_le' n, Nat.lt_succ_sqrt' n⟩

namespace Demo
local instance : HasSqrt Int := ⟨id⟩
local instance : HasLogExp Int := ⟨id, id⟩
local instance : HasLog1p Int := ⟨id⟩
local instance : HasTrunc Int := ⟨Int.toNat⟩

/-- toy carrier `Int` (every theorem of the "every carrier" sections applies to it); the user
    divergence is the number of batch rows in the first bin -/
def cfg : Cfg Int :=
  { div := .user (fun _ t => ((t.headD 0 : Nat) : Int)), detectBatch := 3, stat := .stdev, signif := 0 }
def o : Oracle Int := { eps0 := 0, tcrit := 0 }
def ops : List (Op Int) :=
  [.setRef [[0], [4]] o, .batch [[0], [4]] o, .batch [[0], [4]] o]

/-- an accepted history of three calls: the hypothesis `run c init ops = some s` of `run_inv`,
    `update_beta` is satisfiable with a non-empty history -/
example : (run cfg init ops).isSome = true := rfl

/-- the state that history reaches, written out, except for `featEps`, which the run leaves at `some [-1]`
    (one feature, so `feature_info` is never written and nothing below reads it) -/
def s2 : State Int :=
  { dim := some 1, hasRef := true, total := 2, since := 2, drift := .none,
    reference := [[0], [4], [0], [4], [0], [4]], refN := 6, bins := 2, eps := [1], totalEps := 0,
    lambda := 0, prevDist := 1, prevFeat := [1], curDist := some 1, featEps := some [1], beta := none,
    featInfo := none, distances := [(1, 2), (2, 1)], epsValues := [(2, 1)], thresholds := [] }

example : Inv s2 := by
  have h6 : Nat.sqrt 6 = 2 := (Nat.eq_sqrt.2 ⟨by decide, by decide⟩).symm
  constructor <;> simp [s2, h6]

/-- third batch of the epoch, four of five rows in the first bin: ε = 3 > β = 0 ⇒ drift, the batch
    becomes the reference (hypotheses of `updateCore_drift_iff`, `updateCore_on_drift`) -/
example : (updateCore cfg o s2 1 [[0], [0], [0], [0], [4]]).drift = .drift ∧
    (updateCore cfg o s2 1 [[0], [0], [0], [0], [4]]).reference = [[0], [0], [0], [0], [4]] ∧
    testsDrift cfg 3 = true := by decide

/-- … and a batch like the previous ones: ε = 0, not `> β = 0` ⇒ no drift, the batch is appended
    (hypothesis of `updateCore_no_drift`; also shows the strictness of the comparison) -/
example : (updateCore cfg o s2 1 [[0], [4]]).drift = .none ∧
    (updateCore cfg o s2 1 [[0], [4]]).reference.length = 8 := by decide

end Demo

end MV.HDM
