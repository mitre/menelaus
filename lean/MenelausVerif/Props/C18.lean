/-
  C18 — batch detectors ignore the order of the rows inside a batch.

  Models: Model/HDM.lean (HDDDM / CDBD), Model/NNSP.lean (NNSpacePartitioner, NNDVI); the kdq-tree
  detectors are in Props/C18Kdq.lean.  The carrier's `<` / `≤` come from a linear order; no arithmetic
  law is used (`+ - * / sqrt log trunc ==` are arbitrary).

  HDM: two runs whose references and batches are row permutations of each other call by call, fed the
  same oracle inputs, accept and reject the same calls, show the same observables after each (`trace_perm`)
  and end in states that differ in the row order of the reference only (`Rel`).
  `detect_batch = 1` is outside whenever a `reset` runs (after a drift, in `set_reference`): `reset` then
  halves the reference *by position* (`take` / `drop`), which is not invariant under permutations — the
  property excludes it.  `detect_batch ≠ 3`: the bootstrap estimate ε₀ is computed by the real code from
  rows of the reference drawn by position with the global RNG; in Model/HDM.lean it is the oracle input
  `eps0`, and the history theorems *assume* that the two runs receive equal ε₀ (and t-crit) batch by batch.
  That is a hypothesis, not a theorem.  With `detect_batch = 3` ε₀ is never read and only the t-critical
  values, which depend on row counts, have to agree (`trace_perm_db3`).

  NNSP / NNDVI: `np.unique(axis=0)` depends on the set of rows only, so pool, membership vectors, `build`,
  the distance and every NNDVI `update` agree for the same adjacency input and the same draws.  The
  adjacency matrix and the drawn index permutations are inputs of the model; they refer to pool
  positions, and the pool is the same list in both runs, so "the same inputs" is meaningful.

  Apart from `MV.C18.OptRel` at the head, all declarations live in the sub-namespaces `MV.HDM.C18`,
  `MV.NNSP.C18`, `MV.NNDVI.C18` (other property files define their own `Op` / `Rel` / `trace` in the
  parent namespaces).  The NNDVI example on the demo data of Props/C10 is in Props/C18Examples.lean.
-/
import MenelausVerif.Lemmas.NNSPOrder
import MenelausVerif.Lemmas.NNDVIStep
import MenelausVerif.Props.C02
import MenelausVerif.Props.C07
-- statements below take every instance argument of their section, used or not (`#check` before using one at a new carrier)
set_option linter.unusedSectionVars false

/-- both rejected, or both accepted with related results: `Twin.OptRel` of Props/C02.lean under the name the
    statements of C18 use (the two unfold to the same term, so `cases`, `map`, `bind` below are `Twin.OptRel`'s) -/
def MV.C18.OptRel {σ τ : Type} (R : σ → τ → Prop) : Option σ → Option τ → Prop
  | some a, some b => R a b
  | none, none => True
  | _, _ => False

namespace MV.C18.OptRel
variable {σ τ υ σ' τ' : Type} {R : σ → τ → Prop} {S : σ' → τ' → Prop} {a : Option σ} {b : Option τ}

theorem refl {R : σ → σ → Prop} (hR : ∀ x, R x x) : ∀ a : Option σ, OptRel R a a
  | none => trivial
  | some x => hR x

theorem symm {R' : τ → σ → Prop} (hR : ∀ x y, R x y → R' y x) (h : OptRel R a b) : OptRel R' b a :=
  match a, b, h with
  | none, none, _ => trivial
  | some x, some y, h => hR x y h

theorem trans {S : τ → υ → Prop} {T : σ → υ → Prop} {c : Option υ} (hR : ∀ x y z, R x y → S y z → T x z)
    (h : OptRel R a b) (h' : OptRel S b c) : OptRel T a c :=
  match a, b, c, h, h' with
  | none, none, none, _, _ => trivial
  | some x, some y, some z, h, h' => hR x y z h h'

theorem cases (h : OptRel R a b) : (a = none ∧ b = none) ∨ ∃ x y, a = some x ∧ b = some y ∧ R x y :=
  Twin.OptRel.cases h

theorem map {f : σ → σ'} {g : τ → τ'} (h : OptRel R a b) (hfg : ∀ x y, R x y → S (f x) (g y)) :
    OptRel S (a.map f) (b.map g) :=
  Twin.OptRel.map h fun x y _ _ => hfg x y

theorem bind {f : σ → Option σ'} {g : τ → Option τ'} (h : OptRel R a b)
    (hfg : ∀ x y, R x y → OptRel S (f x) (g y)) : OptRel S (a.bind f) (b.bind g) :=
  Twin.OptRel.bind h fun x y _ _ => hfg x y

theorem of_some {x : σ} (h : OptRel R a b) (ha : a = some x) : ∃ y, b = some y ∧ R x y := by
  subst ha
  match b, h with
  | some y, h => exact ⟨y, rfl, h⟩

end MV.C18.OptRel

namespace MV.HDM.C18
open MV MV.C18

theorem colOf_perm {α : Type} {rows rows' : List (List α)} (h : rows.Perm rows') (f : Nat) :
    (colOf rows f).Perm (colOf rows' f) := h.filterMap _

section perm
variable {α : Type} [Add α] [Sub α] [Mul α] [Div α] [Neg α] [LinearOrder α]
  [NatCast α] [BEq α] [HasSqrt α] [HasLogExp α] [HasLog1p α] [HasTrunc α]

theorem minOf_perm {l l' : List α} (h : l.Perm l') : minOf l = minOf l' :=
  extremum_perm (fun _ _ => le_antisymm) minOf_least h

theorem maxOf_perm {l l' : List α} (h : l.Perm l') : maxOf l = maxOf l' :=
  extremum_perm (r := (· ≥ ·)) (fun _ _ h h' => le_antisymm h' h) maxOf_greatest h

theorem minmax_perm {ref ref' X X' : List (List α)} (hr : ref.Perm ref') (hX : X.Perm X') (f : Nat) :
    rangeOf ref X f = rangeOf ref' X' f := by
  have h := (colOf_perm hr f).append (colOf_perm hX f)
  unfold rangeOf
  simp only [minOf_perm h, maxOf_perm h]

theorem hist_perm (bins : Nat) (lo hi : α) {xs xs' : List α} (h : xs.Perm xs') :
    hist bins lo hi xs = hist bins lo hi xs' :=
  hist_perm' bins lo hi h

theorem histPair_perm (bins : Nat) {ref ref' X X' : List (List α)} (hr : ref.Perm ref') (hX : X.Perm X')
    (f : Nat) : histPair bins ref X f = histPair bins ref' X' f := by
  unfold histPair
  simp only [minmax_perm hr hX f, hist_perm _ _ _ (colOf_perm hr f), hist_perm _ _ _ (colOf_perm hX f)]

theorem featureDistances_perm (d : Divergence α) (dim bins : Nat) {ref ref' X X' : List (List α)}
    (hr : ref.Perm ref') (hX : X.Perm X') :
    featureDistances d dim bins ref X = featureDistances d dim bins ref' X' := by
  unfold featureDistances
  apply List.map_congr_left
  intro f _
  unfold featureDistance
  rw [histPair_perm bins hr hX f]

theorem hdm_distance_perm (d : Divergence α) (dim bins : Nat) {ref ref' X X' : List (List α)}
    (hr : ref.Perm ref') (hX : X.Perm X') :
    featureDistances d dim bins ref X = featureDistances d dim bins ref' X' ∧
    average dim (featureDistances d dim bins ref X) = average dim (featureDistances d dim bins ref' X') := by
  rw [featureDistances_perm d dim bins hr hX]
  exact ⟨rfl, rfl⟩

/-- two detector states that differ only in the row order of the stored reference -/
def Rel (s s' : State α) : Prop := ∃ r', s.reference.Perm r' ∧ s' = { s with reference := r' }

theorem Rel.refl (s : State α) : Rel s s := ⟨s.reference, List.Perm.refl _, rfl⟩

theorem rel_of_perm (s : State α) {r' : List (List α)} (h : s.reference.Perm r') :
    Rel s { s with reference := r' } := ⟨r', h, rfl⟩

theorem Rel.fields {s s' : State α} (h : Rel s s') :
    s.reference.Perm s'.reference ∧ s'.dim = s.dim ∧ s'.hasRef = s.hasRef ∧ s'.total = s.total ∧
    s'.since = s.since ∧ s'.drift = s.drift ∧ s'.refN = s.refN ∧ s'.bins = s.bins ∧ s'.eps = s.eps ∧
    s'.totalEps = s.totalEps ∧ s'.lambda = s.lambda ∧ s'.prevDist = s.prevDist ∧
    s'.prevFeat = s.prevFeat ∧ s'.curDist = s.curDist ∧ s'.featEps = s.featEps ∧ s'.beta = s.beta ∧
    s'.featInfo = s.featInfo ∧ s'.distances = s.distances ∧ s'.epsValues = s.epsValues ∧
    s'.thresholds = s.thresholds := by
  obtain ⟨r', hp, rfl⟩ := h
  simp [hp]

theorem Rel.dim {s s' : State α} (h : Rel s s') : s'.dim = s.dim := by
  obtain ⟨_, _, rfl⟩ := h; rfl

theorem Rel.hasRef {s s' : State α} (h : Rel s s') : s'.hasRef = s.hasRef := by
  obtain ⟨_, _, rfl⟩ := h; rfl

theorem Rel.drift {s s' : State α} (h : Rel s s') : s'.drift = s.drift := by
  obtain ⟨_, _, rfl⟩ := h; rfl

variable (c : Cfg α) (o : Oracle α) (s : State α) (dim : Nat)

/-- all that the body of `update` computes from the reference and the batch -/
theorem step_quantities_perm {s' : State α} {X X' : List (List α)} (hs : Rel s s') (hX : X.Perm X') :
    stepFd c s' dim X' = stepFd c s dim X ∧ stepDist c s' dim X' = stepDist c s dim X ∧
    stepEps c s' dim X' = stepEps c s dim X ∧ stepEpsList c o s' dim X' = stepEpsList c o s dim X ∧
    stepThr c o s' dim X' = stepThr c o s dim X ∧ stepFeatEps c s' dim X' = stepFeatEps c s dim X ∧
    alarm c o s' dim X' = alarm c o s dim X := by
  obtain ⟨r', hp, rfl⟩ := hs
  have h : stepFd c { s with reference := r' } dim X' = stepFd c s dim X :=
    (featureDistances_perm c.div dim s.bins hp hX).symm
  simp only [alarm, stepDist, stepEps, stepEpsList, stepThr, stepFeatEps, h, true_and]
  -- the two sides of `alarm` still differ in projections of `{ s with reference := r' }` under `decide`
  rfl

theorem updateCore_perm {s' : State α} {X X' : List (List α)} (hs : Rel s s') (hX : X.Perm X') :
    Rel (updateCore c o s dim X) (updateCore c o s' dim X') := by
  obtain ⟨e1, e2, e3, e4, e5, e6, ha⟩ := step_quantities_perm c o s dim hs hX
  obtain ⟨r', hp, rfl⟩ := hs
  rw [updateCore_eq, updateCore_eq]
  simp only [ha, e1, e2, e3, e4, e5, e6, ← (hp.append hX).length_eq]
  -- the two records now differ in the new reference only: the batch, or the reference with the batch appended
  refine ⟨_, ?_, rfl⟩
  dsimp only
  split
  · exact hX
  · exact hp.append hX

/-- `_validate_X` looks at the number of rows and at the row widths only -/
theorem validBatch_perm (dimo : Option Nat) {X X' : List (List α)} (hX : X.Perm X') :
    validBatch c dimo X' = validBatch c dimo X := by
  apply Option.ext
  intro w
  rw [validBatch_eq_some_iff, validBatch_eq_some_iff, hX.length_eq]
  exact and_congr_right fun _ => and_congr_right fun _ =>
    and_congr_left' ⟨fun h r hr => h r (hX.mem_iff.1 hr), fun h r hr => h r (hX.mem_iff.2 hr)⟩

theorem reset_perm {s' : State α} (h1 : c.detectBatch ≠ 1) (hs : Rel s s') :
    OptRel Rel (reset c o s) (reset c o s') := by
  obtain ⟨r', hp, rfl⟩ := hs
  rw [reset_restarts c o s h1, reset_restarts c o _ h1]
  exact ⟨r', hp, by simp [hp.length_eq]⟩

theorem preState_perm {s' : State α} (h1 : c.detectBatch ≠ 1 ∨ s.drift ≠ .drift) (hs : Rel s s') :
    OptRel Rel (preState c o s) (preState c o s') := by
  by_cases hd : s.drift = .drift
  · rw [preState_of_drift hd, preState_of_drift (hs.drift.trans hd)]
    exact reset_perm c o s (h1.resolve_right (not_not_intro hd)) hs
  · rw [preState_of_not_drift hd, preState_of_not_drift (hs.drift ▸ hd)]
    exact hs

/-- also for `detect_batch = 1` as long as no `reset` is pending (the state is not `drift`): only that
    `reset` splits the reference by position -/
theorem update_perm {s' : State α} {X X' : List (List α)} (h1 : c.detectBatch ≠ 1 ∨ s.drift ≠ .drift)
    (hs : Rel s s') (hX : X.Perm X') :
    OptRel Rel (update c o s X) (update c o s' X') := by
  rw [update_eq_bind, update_eq_bind, hs.hasRef]
  split
  · refine (preState_perm c o s h1 hs).bind fun t t' ht => ?_
    rw [validBatch_perm c _ hX, ht.dim]
    cases validBatch c t.dim X with
    | none => trivial
    | some d => exact updateCore_perm c o t d ht hX
  · trivial

/-- with `detect_batch = 1` the new reference is halved by position at once -/
theorem setReference_perm {s' : State α} {X X' : List (List α)} (h1 : c.detectBatch ≠ 1)
    (hs : Rel s s') (hX : X.Perm X') :
    OptRel Rel (setReference c o s X) (setReference c o s' X') := by
  obtain ⟨r', hp, rfl⟩ := hs
  rw [setReference_eq, setReference_eq, validBatch_perm c _ hX]
  cases validBatch c s.dim X with
  | none => trivial
  | some d => exact reset_perm c o _ h1 ⟨X', hX, rfl⟩

theorem update_perm_observables {s' t : State α} {X X' : List (List α)}
    (h1 : c.detectBatch ≠ 1 ∨ s.drift ≠ .drift) (hs : Rel s s') (hX : X.Perm X')
    (ht : update c o s X = some t) :
    ∃ t', update c o s' X' = some t' ∧ t'.curDist = t.curDist ∧ t'.distances = t.distances ∧
      t'.epsValues = t.epsValues ∧ t'.eps = t.eps ∧ t'.beta = t.beta ∧ t'.thresholds = t.thresholds ∧
      t'.drift = t.drift ∧ t'.featInfo = t.featInfo ∧ t'.total = t.total ∧ t'.since = t.since ∧
      t'.refN = t.refN ∧ t.reference.Perm t'.reference := by
  obtain ⟨t', h', r', hp, rfl⟩ := (update_perm c o s h1 hs hX).of_some ht
  exact ⟨_, h', rfl, rfl, rfl, rfl, rfl, rfl, rfl, rfl, rfl, rfl, rfl, hp⟩

/-- the same call with permuted rows and the same oracle inputs -/
def OpRel : Op α → Op α → Prop
  | .setRef X o, .setRef X' o' => X.Perm X' ∧ o = o'
  | .batch X o, .batch X' o' => X.Perm X' ∧ o = o'
  | _, _ => False

theorem step_perm {s' : State α} {op op' : Op α} (h1 : c.detectBatch ≠ 1) (hs : Rel s s')
    (ho : OpRel op op') : OptRel Rel (step c s op) (step c s' op') :=
  match op, op', ho with
  | .setRef _ o, .setRef _ _, ⟨hX, rfl⟩ => setReference_perm c o s h1 hs hX
  | .batch _ o, .batch _ _, ⟨hX, rfl⟩ => update_perm c o s (Or.inl h1) hs hX

/-- `OpRel` asks for the same oracle record in both runs: the same t-crit and the same ε₀, which the real code
    draws from the reference by position (`detect_batch ≠ 3`) and Model/HDM.lean takes as an input -/
theorem run_perm {s s' : State α} {ops ops' : List (Op α)} (h1 : c.detectBatch ≠ 1) (hs : Rel s s')
    (ho : List.Forall₂ OpRel ops ops') : OptRel Rel (run c s ops) (run c s' ops') := by
  induction ho generalizing s s' with
  | nil => exact hs
  | cons hop _ ih =>
    rw [run_cons, run_cons]
    exact (step_perm c s h1 hs hop).bind fun _ _ h => ih h

/-- what a caller can read after a call -/
structure Obs (α : Type) where
  drift : Drift
  curDist : Option α
  beta : Option α
  featEps : Option (List α)
  featInfo : Option (FeatInfo α)
  distances : List (Nat × α)
  epsValues : List (Nat × α)
  thresholds : List (Nat × α)
  total : Nat
  since : Nat
  refN : Nat

def obs (s : State α) : Obs α :=
  { drift := s.drift, curDist := s.curDist, beta := s.beta, featEps := s.featEps, featInfo := s.featInfo,
    distances := s.distances, epsValues := s.epsValues, thresholds := s.thresholds, total := s.total,
    since := s.since, refN := s.refN }

/-- the observables after every call of a history; `none` = the call was rejected (the trace stops) -/
def trace (c : Cfg α) : State α → List (Op α) → List (Option (Obs α))
  | _, [] => []
  | s, op :: ops => match step c s op with
    | some s' => some (obs s') :: trace c s' ops
    | none => [none]

theorem obs_rel {s s' : State α} (h : Rel s s') : obs s' = obs s := by
  obtain ⟨r', _, rfl⟩ := h
  rfl

theorem trace_of_step_rel {R : Op α → Op α → Prop}
    (hstep : ∀ {s s' : State α} {op op' : Op α}, Rel s s' → R op op' →
      OptRel Rel (step c s op) (step c s' op'))
    {s s' : State α} {ops ops' : List (Op α)} (hs : Rel s s') (ho : List.Forall₂ R ops ops') :
    trace c s' ops' = trace c s ops := by
  induction ho generalizing s s' with
  | nil => rfl
  | @cons op op' ops ops' hop _ ih =>
    obtain ⟨e, e'⟩ | ⟨t, t', e, e', h⟩ := (hstep hs hop).cases
    · simp only [trace, e, e']
    · simp only [trace, e, e', ih h, obs_rel h]

theorem trace_perm {s s' : State α} {ops ops' : List (Op α)} (h1 : c.detectBatch ≠ 1) (hs : Rel s s')
    (ho : List.Forall₂ OpRel ops ops') : trace c s' ops' = trace c s ops :=
  trace_of_step_rel c (fun hs ho => step_perm c _ h1 hs ho) hs ho

theorem update_eps0_irrelevant_db3 (h3 : c.detectBatch = 3) (e : α) (X : List (List α)) :
    update c { o with eps0 := e } s X = update c o s X :=
  update_db3 c { o with eps0 := e } o s X h3 rfl

/-- the same call with permuted rows and the same t-critical value (ε₀ may differ) -/
def OpRel3 : Op α → Op α → Prop
  | .setRef X o, .setRef X' o' => X.Perm X' ∧ o.tcrit = o'.tcrit
  | .batch X o, .batch X' o' => X.Perm X' ∧ o.tcrit = o'.tcrit
  | _, _ => False

theorem step_perm_db3 (h3 : c.detectBatch = 3) {s s' : State α} {op op' : Op α} (hs : Rel s s')
    (h : OpRel3 op op') : OptRel Rel (step c s op) (step c s' op') := by
  have h1 : c.detectBatch ≠ 1 := by rw [h3]; decide
  match op, op', h with
  | .setRef X o, .setRef X' o', ⟨hX, _⟩ =>
    show OptRel Rel (setReference c o s X) (setReference c o' s' X')
    rw [setReference_oracle_irrelevant c o' o s' X']
    exact setReference_perm c o s h1 hs hX
  | .batch X o, .batch X' o', ⟨hX, ht⟩ =>
    show OptRel Rel (update c o s X) (update c o' s' X')
    rw [update_db3 c o' o s' X' h3 ht.symm]
    exact update_perm c o s (Or.inl h1) hs hX

/-- the real code computes the t-critical values from `reference_n + test_n`, which permutations do not
    change -/
theorem trace_perm_db3 {s s' : State α} {ops ops' : List (Op α)} (h3 : c.detectBatch = 3) (hs : Rel s s')
    (ho : List.Forall₂ OpRel3 ops ops') : trace c s' ops' = trace c s ops :=
  trace_of_step_rel c (step_perm_db3 c h3) hs ho

end perm

namespace Demo18
local instance : HasSqrt Int := ⟨id⟩
local instance : HasLogExp Int := ⟨id, id⟩
local instance : HasLog1p Int := ⟨id⟩
local instance : HasTrunc Int := ⟨Int.toNat⟩

/-- the C07 demo history continued by a drifting batch and two more batches … -/
def opsA : List (Op Int) :=
  Demo.ops ++ [.batch [[0], [0], [0], [0], [4]] Demo.o, .batch [[0], [4], [4]] Demo.o,
    .batch [[4], [0], [0]] Demo.o]

/-- … and the same history with the rows of every call reordered, and different (unread) ε₀ -/
def opsB : List (Op Int) :=
  [.setRef [[4], [0]] { eps0 := 7, tcrit := 0 }, .batch [[4], [0]] { eps0 := 8, tcrit := 0 },
   .batch [[4], [0]] { eps0 := 9, tcrit := 0 }, .batch [[0], [4], [0], [0], [0]] { eps0 := 1, tcrit := 0 },
   .batch [[4], [0], [4]] { eps0 := 2, tcrit := 0 }, .batch [[0], [0], [4]] { eps0 := 3, tcrit := 0 }]

theorem ops_rel : List.Forall₂ OpRel3 opsA opsB := by
  refine .cons ⟨?_, rfl⟩ (.cons ⟨?_, rfl⟩ (.cons ⟨?_, rfl⟩ (.cons ⟨?_, rfl⟩ (.cons ⟨?_, rfl⟩
    (.cons ⟨?_, rfl⟩ .nil)))))
  all_goals decide

/-- the permuted history is accepted, drifts at its fourth batch (the batch becomes the reference,
    `reset` runs at the next call) and goes on: (drift state, distance, reference_n) per call -/
example : (trace Demo.cfg init opsB).map (fun x => x.map (fun y => (y.drift, y.curDist, y.refN))) =
    [some (.none, none, 2), some (.none, some 2, 4), some (.none, some 1, 6), some (.drift, some 4, 6),
     some (.none, some 1, 8), some (.none, some 2, 11)] := by decide +kernel

/-- `trace_perm_db3` applies to the pair of histories -/
example : trace Demo.cfg init opsB = trace Demo.cfg init opsA :=
  trace_perm_db3 Demo.cfg rfl (Rel.refl _) ops_rel

/-- `detect_batch = 1` is rightly excluded: `set_reference` halves the data by position, and two
    row orders of the same eight rows give different recorded distances (0 vs 2) -/
example :
    (setReference { Demo.cfg with detectBatch := 1 } Demo.o init
        [[0], [0], [0], [0], [4], [4], [4], [4]]).map (·.distances) = some [(1, 0)] ∧
    (setReference { Demo.cfg with detectBatch := 1 } Demo.o init
        [[0], [4], [0], [4], [0], [4], [0], [4]]).map (·.distances) = some [(1, 2)] := by
  decide +kernel

example : histPair 2 ([[0], [4], [1]] : List (List Int)) [[4], [3]] 0 = ([2, 1], [0, 2]) ∧
    histPair 2 ([[1], [0], [4]] : List (List Int)) [[3], [4]] 0 = ([2, 1], [0, 2]) := by decide

end Demo18

end MV.HDM.C18

namespace MV.NNSP.C18

section perm
variable {α : Type} [LinearOrder α]

theorem unique_perm {l l' : List (Row α)} (h : l.Perm l') : unique l = unique l' :=
  unique_ext (fun _ => h.mem_iff)

theorem parts_perm {s1 s1' s2 s2' : List (Row α)} (h1 : s1.Perm s1') (h2 : s2.Perm s2') :
    parts s1 s2 = parts s1' s2' := by
  rw [parts_eq, parts_eq, unique_perm (h1.append h2)]
  simp only [h1.mem_iff, h2.mem_iff]

theorem pool_perm {s1 s1' s2 s2' : List (Row α)} (h1 : s1.Perm s1') (h2 : s2.Perm s2') :
    (parts s1 s2).pool = (parts s1' s2').pool := by rw [parts_perm h1 h2]

theorem member_perm {s1 s1' s2 s2' : List (Row α)} (h1 : s1.Perm s1') (h2 : s2.Perm s2') :
    (parts s1 s2).v1 = (parts s1' s2').v1 ∧ (parts s1 s2).v2 = (parts s1' s2').v2 := by
  rw [parts_perm h1 h2]; exact ⟨rfl, rfl⟩

end perm

section build
variable {α : Type} [LinearOrder α] [Add α] [Sub α] [Mul α] [NatCast α]

/-- the same adjacency input: it refers to pool positions, and the pool is the same list -/
theorem build_perm (k : Nat) {s1 s1' s2 s2' : List (Row α)} (h1 : s1.Perm s1') (h2 : s2.Perm s2')
    (adj : List (List Bool)) : build k s1 s2 adj = build k s1' s2' adj := by
  unfold build
  rw [parts_perm h1 h2]

end build

section dist
variable {α : Type} [LinearOrder α] [Add α] [Sub α] [Mul α] [Div α] [Neg α] [NatCast α]

/-- `compute_nnps_distance` after `build` -/
theorem nnps_distance_perm (k : Nat) {s1 s1' s2 s2' : List (Row α)} (h1 : s1.Perm s1') (h2 : s2.Perm s2')
    (adj : List (List Bool)) :
    (build k s1 s2 adj).map (fun b => (nnpsDistance b.nnps b.v1 b.v2 : α)) =
      (build k s1' s2' adj).map (fun b => (nnpsDistance b.nnps b.v1 b.v2 : α)) := by
  rw [build_perm k h1 h2]

end dist

example : (parts [[1], [2], [2], [0]] [[5], [1]] : Parts Nat).pool = [[0], [1], [2], [5]] ∧
    (parts [[1], [2], [2], [0]] [[5], [1]] : Parts Nat).v1 = [true, true, true, false] ∧
    (parts [[1], [2], [2], [0]] [[5], [1]] : Parts Nat).v2 = [false, true, false, true] ∧
    (parts [[2], [0], [2], [1]] [[1], [5]] : Parts Nat).v1 = [true, true, true, false] := by decide

end MV.NNSP.C18

namespace MV.NNDVI.C18
open MV MV.C18 MV.NNSP MV.NNSP.C18

section perm
variable {α : Type} [LinearOrder α] [Add α] [Sub α] [Mul α] [Div α] [Neg α] [NatCast α] [HasSqrt α]

def RefRel : Option (List (Row α)) → Option (List (Row α)) → Prop := OptRel List.Perm

def Rel (s s' : State α) : Prop := ∃ r', RefRel s.reference r' ∧ s' = { s with reference := r' }

theorem Rel.refl (s : State α) : Rel s s := ⟨s.reference, OptRel.refl List.Perm.refl _, rfl⟩

theorem Rel.fields {s s' : State α} (h : Rel s s') :
    RefRel s.reference s'.reference ∧ s'.total = s.total ∧ s'.since = s.since ∧ s'.drift = s.drift := by
  obtain ⟨r', hp, rfl⟩ := h
  exact ⟨hp, rfl, rfl, rfl⟩

theorem setReference_perm {s s' : State α} {X X' : List (Row α)} (hs : Rel s s') (hX : X.Perm X') :
    Rel (setReference s X) (setReference s' X') := by
  obtain ⟨r', _, rfl⟩ := hs
  exact ⟨some X', hX, rfl⟩

theorem test_perm (c : Cfg α) {r r' : Option (List (Row α))} {X X' : List (Row α)} (hr : RefRel r r')
    (hX : X.Perm X') (adj : List (List Bool)) (perms : List (List Nat)) :
    test c r' X' adj perms = test c r X adj perms := by
  unfold test
  match r, r', hr with
  | none, none, _ => rfl
  | some ref, some ref', hp => rw [Option.bind_some, Option.bind_some, build_perm c.k hp hX adj]

/-- **one NNDVI `update`** on related states with a permuted batch, the same adjacency input and
    the same draws: the same output (rejected, or distance / threshold / validity flag), hence the
    same drift decision, and related states afterwards. -/
theorem nndvi_step_perm (c : Cfg α) {s s' : State α} {X X' : List (Row α)} (hs : Rel s s') (hX : X.Perm X')
    (adj : List (List Bool)) (perms : List (List Nat)) :
    (step c s' X' adj perms).2 = (step c s X adj perms).2 ∧
    Rel (step c s X adj perms).1 (step c s' X' adj perms).1 := by
  obtain ⟨r', hp, rfl⟩ := hs
  rw [step_eq, step_eq]
  dsimp only
  rw [test_perm c hp hX adj perms]
  refine ⟨rfl, ?_⟩
  cases (test c s.reference X adj perms).alarm
  · exact ⟨r', hp, rfl⟩
  · exact ⟨some X', hX, rfl⟩

inductive Op (α : Type) where
  | setRef (X : List (Row α))
  | batch (X : List (Row α)) (adj : List (List Bool)) (perms : List (List Nat))

def OpRel : Op α → Op α → Prop
  | .setRef X, .setRef X' => X.Perm X'
  | .batch X adj perms, .batch X' adj' perms' => X.Perm X' ∧ adj = adj' ∧ perms = perms'
  | _, _ => False

def stepOp (c : Cfg α) (s : State α) : Op α → State α × Option (Out α)
  | .setRef X => (setReference s X, none)
  | .batch X adj perms => ((step c s X adj perms).1, some (step c s X adj perms).2)

def trace (c : Cfg α) : State α → List (Op α) → List (Option (Out α) × Drift × Nat × Nat)
  | _, [] => []
  | s, op :: ops =>
    ((stepOp c s op).2, (stepOp c s op).1.drift, (stepOp c s op).1.total, (stepOp c s op).1.since) ::
      trace c (stepOp c s op).1 ops

theorem stepOp_perm (c : Cfg α) {s s' : State α} {op op' : Op α} (hs : Rel s s') (ho : OpRel op op') :
    (stepOp c s' op').2 = (stepOp c s op).2 ∧ Rel (stepOp c s op).1 (stepOp c s' op').1 :=
  match op, op', ho with
  | .setRef _, .setRef _, hX => ⟨rfl, setReference_perm hs hX⟩
  | .batch _ adj perms, .batch _ _ _, ⟨hX, rfl, rfl⟩ =>
    have h := nndvi_step_perm c hs hX adj perms
    ⟨congrArg some h.1, h.2⟩

/-- **NNDVI histories**: two runs whose references and batches are row permutations of each other
    call by call, given the same k-NN graphs and the same draws, report the same distances,
    thresholds, drift decisions and counters at every call. -/
theorem nndvi_trace_perm (c : Cfg α) {s s' : State α} {ops ops' : List (Op α)} (hs : Rel s s')
    (ho : List.Forall₂ OpRel ops ops') : trace c s' ops' = trace c s ops := by
  induction ho generalizing s s' with
  | nil => rfl
  | cons hop _ ih =>
    obtain ⟨h1, h2⟩ := stepOp_perm c hs hop
    simp only [trace]
    rw [ih h2, h1, h2.fields.2.1, h2.fields.2.2.1, h2.fields.2.2.2]

/-- the same for `run` / `flags` of Lemmas/NNDVIStep (histories of `update` only) -/
theorem nndvi_flags_perm (c : Cfg α) {s s' : State α}
    {ops ops' : List (List (Row α) × List (List Bool) × List (List Nat))} (hs : Rel s s')
    (ho : List.Forall₂ (fun a b => a.1.Perm b.1 ∧ a.2 = b.2) ops ops') :
    flags c s' ops' = flags c s ops ∧ Rel (run c s ops) (run c s' ops') := by
  induction ho generalizing s s' with
  | nil => exact ⟨rfl, hs⟩
  | @cons a b as bs hop _ ih =>
    obtain ⟨hX, h2⟩ := hop
    have h := nndvi_step_perm c hs hX a.2.1 a.2.2
    have hb : step c s' b.1 b.2.1 b.2.2 = step c s' b.1 a.2.1 a.2.2 := by rw [h2]
    simp only [flags, run, hb]
    obtain ⟨i1, i2⟩ := ih h.2
    rw [i1, h.2.fields.2.2.2]
    exact ⟨rfl, i2⟩

end perm

end MV.NNDVI.C18
