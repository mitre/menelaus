/-
  C14 — uniform input validation; rejected inputs do no harm; containers don't matter.

  All theorems are about `Model/Validate.lean` (tied to menelaus/detector.py and the
  per-detector guards by harness/checks/c14.py).  The quantified ones hold for every value
  type `α`, every history and every container order; the F8d / HDDDM witnesses are closed
  runs over `Nat`.  `fix <hash>` names a commit of the menelaus checkout under /repo.
-/
import MenelausVerif.Model.Validate
namespace MV.Validate
variable {α : Type}

/-- the invariant of the recorded state: names, once recorded, determine the dimension -/
def Inv (s : VState) : Prop := ∀ cs, s.cols = some cs → s.dim = some cs.length

theorem inv_init : Inv VState.init := by
  intro cs h; simp [VState.init] at h

/-- the names of a frame do not contradict recorded names -/
def NamesOk (s : VState) (x : Input α) : Prop :=
  ∀ n cs, x.names? = some n → s.cols = some cs → n = cs

/-- the gap of `BatchDetector._validate_X` (F8d): a frame arrives while no names are recorded but
    arrays have recorded a dimension different from the frame's width -/
def batchGap (s : VState) (x : Input α) : Prop :=
  s.cols = none ∧ ∃ names d, x.names? = some names ∧ s.dim = some d ∧ names.length ≠ d

/-- what an accepted `_validate_X` call returns and commits -/
theorem validateX_ok {m : Mode} {s s' : VState} {x : Input α} {a : Arr α}
    (h : validateX m s x = (s', .ok a)) :
    candidate m s x = .ok s' ∧ a = coerceX m x ∧ rowsOk m a.rows = true := by
  unfold validateX at h
  split at h
  · simp at h
  · split at h
    · simp at h; obtain ⟨h1, h2⟩ := h; subst h1; subst h2
      refine ⟨by assumption, rfl, by assumption⟩
    · simp at h

theorem validateX_error {m : Mode} {s s' : VState} {x : Input α} {r : Reason}
    (h : validateX m s x = (s', .error r)) : s' = s := by
  unfold validateX at h
  split at h
  · simp at h; exact h.1.symm
  · split at h
    · simp at h
    · simp at h; exact h.1.symm

theorem validateX_rejects {m : Mode} {s : VState} {x : Input α}
    (h : ∀ s' a, validateX m s x ≠ (s', .ok a)) : ∃ r, validateX m s x = (s, .error r) := by
  cases hr : validateX m s x with
  | mk s' res =>
    cases res with
    | error e => exact ⟨e, by rw [validateX_error hr]⟩
    | ok a => exact absurd hr (h s' a)

theorem coerceX_cols_of_names {m : Mode} {x : Input α} {names : List String}
    (h : x.names? = some names) : (coerceX m x).cols = names.length := by
  cases x <;> simp [Input.names?] at h
  subst h; simp [coerceX, Input.shape]

/-- every way `candidate` can come out, in one form for every container and both bases: the names of a frame
    contradict the recorded ones; or the width is not the recorded one; or the names of a frame (else the
    recorded ones) and the width are recorded — the width then being the recorded one, except in the gap of
    the batch base -/
theorem candidate_cases (m : Mode) {s : VState} (x : Input α) (hi : Inv s) :
    (candidate m s x = .error .names ∧ ¬ NamesOk s x) ∨
    (candidate m s x = .error .width ∧ ∃ d, s.dim = some d ∧ (coerceX m x).cols ≠ d) ∨
    (candidate m s x = .ok ⟨x.names? <|> s.cols, some (coerceX m x).cols⟩ ∧ NamesOk s x ∧
      ((m = .batch → ¬ batchGap s x) → ∀ d, s.dim = some d → (coerceX m x).cols = d)) := by
  unfold candidate NamesOk batchGap
  cases hx : x.names? with
  | none =>
    cases hd : s.dim with
    | none => exact .inr (.inr ⟨rfl, nofun, nofun⟩)
    | some d =>
      by_cases hne : (coerceX m x).cols = d
      · refine .inr (.inr ⟨?_, nofun, fun _ d' hd' => hne.trans (Option.some.inj hd')⟩)
        simp [hne, ← hd]
      · exact .inr (.inl ⟨if_pos hne, d, rfl, hne⟩)
  | some n =>
    rw [coerceX_cols_of_names hx]
    cases hc : s.cols with
    | some cs =>
      by_cases hn : n = cs
      · subst hn
        -- by `Inv` the recorded dimension is the number of recorded names
        refine .inr (.inr ⟨?_, fun _ _ h1 h2 => (Option.some.inj h1).symm.trans (Option.some.inj h2),
          fun _ d hd => Option.some.inj ((hi n hc).symm.trans hd)⟩)
        simp [← hc, ← hi n hc]
      · exact .inl ⟨if_neg hn, fun h => hn (h n cs rfl rfl)⟩
    | none =>
      have hn : ∀ n' cs, some n = some n' → (none : Option (List String)) = some cs → n' = cs :=
        fun _ _ _ h => nomatch h
      cases hd : s.dim with
      | none => exact .inr (.inr ⟨by cases m <;> rfl, hn, nofun⟩)
      | some d =>
        cases m with
        | stream =>
          by_cases hne : n.length = d
          · exact .inr (.inr ⟨if_neg (fun h => h hne), hn, fun _ d' hd' => hne.trans (Option.some.inj hd')⟩)
          · exact .inr (.inl ⟨if_pos hne, d, rfl, hne⟩)
        | batch =>
          -- no width test on this path (F8d): a frame of another width is accepted, and is the gap
          exact .inr (.inr ⟨rfl, hn, fun hg d' hd' =>
            Decidable.by_contra fun hne => hg rfl ⟨rfl, n, d', rfl, hd', hne⟩⟩)

/-- the state after a call, accepted or not: as it was, or the candidate, with what `candidate_cases` says
    of an accepted one -/
theorem validateX_fst (m : Mode) {s : VState} (x : Input α) (hi : Inv s) :
    (validateX m s x).1 = s ∨
    ((validateX m s x).1 = ⟨x.names? <|> s.cols, some (coerceX m x).cols⟩ ∧ NamesOk s x ∧
      ((m = .batch → ¬ batchGap s x) → ∀ d, s.dim = some d → (coerceX m x).cols = d)) := by
  unfold validateX
  rcases candidate_cases m x hi with ⟨e, -⟩ | ⟨e, -⟩ | ⟨e, h⟩ <;> rw [e]
  · exact .inl rfl
  · exact .inl rfl
  · dsimp only
    split
    · exact .inr ⟨rfl, h⟩
    · exact .inl rfl

theorem validateX_inv {m : Mode} {s : VState} (x : Input α) (hi : Inv s) : Inv (validateX m s x).1 := by
  rcases validateX_fst m x hi with h | ⟨h, -, hw⟩ <;> rw [h]
  · exact hi
  · intro cs hcs
    cases hx : x.names? with
    | some n => simp [hx] at hcs; simp [← hcs, coerceX_cols_of_names hx]
    | none =>
      simp [hx] at hcs
      simp only
      rw [hw (fun _ hg => by simp [batchGap, hx] at hg) _ (hi cs hcs)]

theorem runX_inv {m : Mode} (xs : List (Input α)) {s : VState} (hi : Inv s) : Inv (runX m s xs) := by
  induction xs generalizing s with
  | nil => exact hi
  | cons x xs ih => exact ih (validateX_inv x hi)

/-! ### accept_rows : a streaming detector takes exactly one observation, a batch detector at least two -/

theorem accept_rows_stream {s s' : VState} {x : Input α} {a : Arr α}
    (h : validateX .stream s x = (s', .ok a)) : a.rows = 1 := by
  have := (validateX_ok h).2.2
  simpa [rowsOk] using this

theorem accept_rows_batch {s s' : VState} {x : Input α} {a : Arr α}
    (h : validateX .batch s x = (s', .ok a)) : 2 ≤ a.rows := by
  have := (validateX_ok h).2.2
  simp [rowsOk] at this; omega

/-- streaming labels: accepted iff `np.array(y)` has exactly one element -/
theorem accept_y_stream (y : Input α) :
    (∃ a, validateY .stream y = .ok a) ↔ y.size = 1 := by
  simp only [validateY]; split <;> simp_all

/-- batch labels, as the code is: only 2-D data with one column and a row count other than one is
    accepted — every 0-D / 1-D `y` is reshaped to one row and rejected; a `(0, 1)` array passes. -/
theorem accept_y_batch (y : Input α) :
    (∃ a, validateY .batch y = .ok a) ↔ ∃ r, y.shape = .s2 r 1 ∧ r ≠ 1 := by
  simp only [validateY]
  cases hs : y.shape with
  | s0 => simp
  | s1 n => simp
  | s2 r c =>
    by_cases hr : r = 1
    · simp [hr]
    · by_cases hc : c = 1
      · simp [hr, hc]
      · simp [hr, hc]

example : validateY .batch (Input.ndarray1d [1, 0, 1] : Input Nat) = .error .yobs := by rfl
example : validateY .batch (Input.ndarray2d 3 1 [1, 0, 1] : Input Nat) = .ok ⟨3, 1, [1, 0, 1]⟩ := by rfl
example : validateY .stream (Input.series [7] : Input Nat) = .ok ⟨1, 1, [7]⟩ := by rfl

/-! ### width_stable

  One accepted call, and whole histories, for both bases at once: the streaming statements are the case
  in which the hypothesis about the gap of the batch base is void. -/

/-- no call of the history falls into the gap -/
def gapFree : VState → List (Input α) → Prop
  | _, [] => True
  | s, x :: xs => ¬ batchGap s x ∧ gapFree (validateX .batch s x).1 xs

/-- recorded names survive every call, accepted or not, on either base.  `Inv` is not essential here nor in
    `validateX_dim`: it is what `candidate_cases` asks for, and every reachable state has it (`runX_inv`). -/
theorem validateX_cols {m : Mode} {s : VState} {cs : List String} (x : Input α) (hi : Inv s)
    (hc : s.cols = some cs) : (validateX m s x).1.cols = some cs := by
  rcases validateX_fst m x hi with h | ⟨h, hn, -⟩ <;> rw [h]
  · exact hc
  · cases hx : x.names? with
    | none => exact hc
    | some n => exact congrArg some (hn n cs hx hc)

/-- one accepted call: the width of the input is recorded and its names are; recorded names stay; only
    the comparison with a dimension recorded before needs the call to be outside the gap -/
theorem validateX_step {m : Mode} {s s' : VState} {x : Input α} {a : Arr α} (hi : Inv s)
    (h : validateX m s x = (s', .ok a)) :
    s'.dim = some a.cols ∧
    ((m = .batch → ¬ batchGap s x) → ∀ d, s.dim = some d → a.cols = d) ∧
    (∀ cs, s.cols = some cs → s'.cols = some cs) ∧
    (∀ names, x.names? = some names → s'.cols = some names) := by
  have h3 : ∀ cs, s.cols = some cs → s'.cols = some cs := fun cs hcs => by
    have := validateX_cols (m := m) x hi hcs; rwa [h] at this
  obtain ⟨hc, rfl, _⟩ := validateX_ok h
  rcases candidate_cases m x hi with ⟨e, -⟩ | ⟨e, -⟩ | ⟨e, -, hw⟩ <;> rw [e] at hc <;> cases hc
  exact ⟨rfl, hw, h3, fun n hx => by simp [hx]⟩

theorem stream_step {s s' : VState} {x : Input α} {a : Arr α} (hi : Inv s)
    (h : validateX .stream s x = (s', .ok a)) :
    s'.dim = some a.cols ∧
    (∀ d, s.dim = some d → a.cols = d) ∧
    (∀ cs, s.cols = some cs → s'.cols = some cs) ∧
    (∀ names, x.names? = some names → s'.cols = some names) :=
  have ⟨h1, h2, h34⟩ := validateX_step hi h
  ⟨h1, h2 (by nofun), h34⟩

theorem batch_step {s s' : VState} {x : Input α} {a : Arr α} (hi : Inv s) (hg : ¬ batchGap s x)
    (h : validateX .batch s x = (s', .ok a)) :
    s'.dim = some a.cols ∧
    (∀ d, s.dim = some d → a.cols = d) ∧
    (∀ cs, s.cols = some cs → s'.cols = some cs) ∧
    (∀ names, x.names? = some names → s'.cols = some names) :=
  have ⟨h1, h2, h34⟩ := validateX_step hi h
  ⟨h1, h2 fun _ => hg, h34⟩

/-- a recorded dimension survives every call outside the gap -/
theorem validateX_dim {m : Mode} {s : VState} {d : Nat} (x : Input α) (hi : Inv s)
    (hg : m = .batch → ¬ batchGap s x) (hd : s.dim = some d) : (validateX m s x).1.dim = some d := by
  rcases validateX_fst m x hi with h | ⟨h, -, hw⟩ <;> rw [h]
  · exact hd
  · exact congrArg some (hw hg d hd)

theorem runX_cols_forever {m : Mode} (ys : List (Input α)) {s : VState} {cs : List String} (hi : Inv s)
    (hc : s.cols = some cs) : (runX m s ys).cols = some cs := by
  induction ys generalizing s with
  | nil => exact hc
  | cons y ys ih => exact ih (validateX_inv y hi) (validateX_cols y hi hc)

theorem runX_dim_forever {m : Mode} (ys : List (Input α)) {s : VState} {d : Nat} (hi : Inv s)
    (hd : s.dim = some d) (hg : m = .batch → gapFree s ys) : (runX m s ys).dim = some d := by
  induction ys generalizing s with
  | nil => exact hd
  | cons y ys ih =>
    exact ih (validateX_inv y hi) (validateX_dim y hi (fun hm => (hg hm).1) hd)
      (fun hm => by subst hm; exact (hg rfl).2)

/-- a recorded dimension survives every later history (accepted or rejected calls, any containers) -/
theorem stream_dim_forever (ys : List (Input α)) {s : VState} {d : Nat} (hi : Inv s)
    (hd : s.dim = some d) : (runX .stream s ys).dim = some d :=
  runX_dim_forever ys hi hd (by nofun)

theorem stream_cols_forever (ys : List (Input α)) {s : VState} {cs : List String} (hi : Inv s)
    (hc : s.cols = some cs) : (runX .stream s ys).cols = some cs :=
  runX_cols_forever ys hi hc

theorem runX_append (m : Mode) (s : VState) (xs ys : List (Input α)) :
    runX m s (xs ++ ys) = runX m (runX m s xs) ys := by
  induction xs generalizing s with
  | nil => rfl
  | cons x xs ih => simp [runX, ih]

theorem gapFree_append {s : VState} (ys zs : List (Input α)) :
    gapFree s (ys ++ zs) ↔ gapFree s ys ∧ gapFree (runX .batch s ys) zs := by
  induction ys generalizing s with
  | nil => simp [gapFree, runX]
  | cons y ys ih => simp [gapFree, runX, ih, and_assoc]

/-- width and names are stable on either base, outside the gap of the batch base: take any history `xs`,
    an input `x0` accepted after it, any further history `ys`, and an input `x` accepted after that.
    Only the calls after `x0` must stay out of the gap: a frame accepted in it overwrites the width, and
    that width then binds everything later. -/
theorem width_stable_of_gapFree {m : Mode} (xs ys : List (Input α)) (x0 x : Input α) (s1 s' : VState)
    (a0 a : Arr α) (h0 : validateX m (runX m VState.init xs) x0 = (s1, .ok a0))
    (hg : m = .batch → gapFree s1 (ys ++ [x]))
    (h : validateX m (runX m s1 ys) x = (s', .ok a)) :
    a.cols = a0.cols ∧ s'.dim = some a0.cols ∧
    (∀ n0 n, x0.names? = some n0 → x.names? = some n → n = n0) := by
  have hi0 : Inv (runX m VState.init xs) := runX_inv xs inv_init
  have st0 := validateX_step hi0 h0
  have hi1 : Inv s1 := by have := validateX_inv (m := m) x0 hi0; rwa [h0] at this
  have hg' : m = .batch → gapFree s1 ys ∧ ¬ batchGap (runX m s1 ys) x := fun hm => by
    subst hm; have := (gapFree_append ys [x]).mp (hg rfl); exact ⟨this.1, this.2.1⟩
  have hd := runX_dim_forever ys hi1 st0.1 (fun hm => (hg' hm).1)
  have st := validateX_step (runX_inv ys hi1) h
  have hw := st.2.1 (fun hm => (hg' hm).2) _ hd
  refine ⟨hw, by rw [st.1, hw], fun n0 n hn0 hn => ?_⟩
  have c3 := st.2.2.1 n0 (runX_cols_forever ys hi1 (st0.2.2.2 n0 hn0))
  rw [st.2.2.2 n hn] at c3; simpa using c3

/-- **width_stable** (streaming).  Take any history `xs` (any mix of containers, accepted and rejected
    calls), an input `x0` accepted after it, any further history `ys`, and an input `x` accepted after
    that: `x` has the width of `x0`, and if both are DataFrames they carry the same column names in
    the same order.  Equivalently: every later input of another width / with other names is rejected. -/
theorem width_stable (xs ys : List (Input α)) (x0 x : Input α) (s1 s' : VState) (a0 a : Arr α)
    (h0 : validateX .stream (runX .stream VState.init xs) x0 = (s1, .ok a0))
    (h : validateX .stream (runX .stream s1 ys) x = (s', .ok a)) :
    a.cols = a0.cols ∧ s'.dim = some a0.cols ∧
    (∀ n0 n, x0.names? = some n0 → x.names? = some n → n = n0) :=
  width_stable_of_gapFree xs ys x0 x s1 s' a0 a h0 (by nofun) h

/-- the rejecting form: after `x0` was accepted, an input of another width is rejected with the
    state untouched -/
theorem width_stable_rejects (xs ys : List (Input α)) (x0 x : Input α) (s1 : VState) (a0 : Arr α)
    (h0 : validateX .stream (runX .stream VState.init xs) x0 = (s1, .ok a0))
    (hne : (coerceX .stream x).cols ≠ a0.cols) :
    ∃ r, validateX .stream (runX .stream s1 ys) x = (runX .stream s1 ys, .error r) :=
  validateX_rejects fun s' a hr =>
    hne ((validateX_ok hr).2.1 ▸ (width_stable xs ys x0 x s1 s' a0 a h0 hr).1)

/-- … and a DataFrame with other names (any difference, including order) is rejected -/
theorem names_stable_rejects (xs ys : List (Input α)) (x0 x : Input α) (s1 : VState) (a0 : Arr α)
    (n0 n : List String) (hn0 : x0.names? = some n0) (hn : x.names? = some n) (hne : n ≠ n0)
    (h0 : validateX .stream (runX .stream VState.init xs) x0 = (s1, .ok a0)) :
    ∃ r, validateX .stream (runX .stream s1 ys) x = (runX .stream s1 ys, .error r) :=
  validateX_rejects fun s' a hr => hne ((width_stable xs ys x0 x s1 s' a0 a h0 hr).2.2 n0 n hn0 hn)

-- non-vacuity: arrays fix width 2, then a frame of width 2 is accepted and a frame of width 3 is rejected
example :
    validateX .stream (runX .stream VState.init [Input.ndarray2d 2 2 [1, 2, 3, 4], Input.list [5, 6]])
      (Input.dataframe ["a", "b"] 1 [7, 8] : Input Nat)
      = ({ cols := some ["a", "b"], dim := some 2 }, .ok ⟨1, 2, [7, 8]⟩) := by rfl
example :
    validateX .stream (runX .stream VState.init [Input.list [5, 6]])
      (Input.dataframe ["a", "b", "c"] 1 [7, 8, 9] : Input Nat)
      = ({ cols := none, dim := some 2 }, .error .width) := by rfl
-- F8a: the rejected 2-row array left no trace, the list of width 2 decides
example : (runX .stream VState.init [(Input.ndarray2d 2 3 [1, 2, 3, 4, 5, 6] : Input Nat), Input.list [5, 6]]).dim
    = some 2 := by rfl

/-- **width_stable_partial** (batch): width and recorded dimension are stable over every history in which
    no call falls into the gap "DataFrame of another width while only arrays have established the width".
    What is missing for the full statement is exactly that gap, see `batch_gap_accepts`.  The names
    conjunct of `width_stable` holds as well, and `hg0` is not needed (`x0` itself may be the frame in the
    gap): both are in `width_stable_of_gapFree`. -/
theorem width_stable_partial (xs ys : List (Input α)) (x0 x : Input α) (s1 s' : VState) (a0 a : Arr α)
    (h0 : validateX .batch (runX .batch VState.init xs) x0 = (s1, .ok a0))
    (hg0 : ¬ batchGap (runX .batch VState.init xs) x0)
    (hg : gapFree s1 (ys ++ [x]))
    (h : validateX .batch (runX .batch s1 ys) x = (s', .ok a)) :
    a.cols = a0.cols ∧ s'.dim = some a0.cols :=
  have st := width_stable_of_gapFree xs ys x0 x s1 s' a0 a h0 (fun _ => hg) h
  ⟨st.1, st.2.1⟩

/-- once names are recorded no later call can fall into the gap … -/
theorem gapFree_of_cols (ys : List (Input α)) {s : VState} {cs : List String} (hi : Inv s)
    (hc : s.cols = some cs) : gapFree s ys := by
  induction ys generalizing s with
  | nil => trivial
  | cons y ys ih =>
    exact ⟨fun h => (nomatch h.1.symm.trans hc), ih (validateX_inv y hi) (validateX_cols y hi hc)⟩

/-- … and a history without DataFrames never does -/
theorem gapFree_of_no_frames (ys : List (Input α)) (s : VState)
    (hn : ∀ y ∈ ys, y.names? = none) : gapFree s ys := by
  induction ys generalizing s with
  | nil => trivial
  | cons y ys ih =>
    refine ⟨?_, ih _ (fun z hz => hn z (List.mem_cons_of_mem _ hz))⟩
    intro h
    obtain ⟨_, names, d, h1, _⟩ := h
    rw [hn y (List.mem_cons_self ..)] at h1; simp at h1

/-- the gap itself (F8d, `tests/menelaus/test_detector.py::test_batch_validation_X_dimensions`):
    a 6×1 array establishes width 1, a 2×3 DataFrame is then accepted and overwrites the width -/
theorem batch_gap_accepts :
    validateX .batch (runX .batch VState.init [(Input.ndarray2d 6 1 [1, 2, 3, 4, 5, 6] : Input Nat)])
      (Input.dataframe ["a", "b", "c"] 2 [1, 2, 3, 4, 5, 6])
      = ({ cols := some ["a", "b", "c"], dim := some 3 }, .ok ⟨2, 3, [1, 2, 3, 4, 5, 6]⟩) := by rfl

/-- the same call on the streaming base is rejected (fix 31a8ae6) -/
theorem stream_gap_rejects (s : VState) (x : Input α) (h : batchGap s x) :
    validateX .stream s x = (s, .error .width) := by
  obtain ⟨hc, names, d, hn, hd, hne⟩ := h
  simp [validateX, candidate, hn, hc, hd, hne]

-- non-vacuity of `width_stable_partial`: array first, then a frame of the same width (not in the gap)
example : ∃ (s1 s' : VState) (a0 a : Arr Nat),
    validateX .batch (runX .batch VState.init ([] : List (Input Nat))) (.ndarray2d 3 2 [1, 2, 3, 4, 5, 6]) = (s1, .ok a0) ∧
    ¬ batchGap (runX .batch VState.init ([] : List (Input Nat))) (Input.ndarray2d 3 2 [1, 2, 3, 4, 5, 6] : Input Nat) ∧
    gapFree s1 (([] : List (Input Nat)) ++ [Input.dataframe ["a", "b"] 2 [1, 2, 3, 4]]) ∧
    validateX .batch (runX .batch s1 ([] : List (Input Nat))) (.dataframe ["a", "b"] 2 [1, 2, 3, 4]) = (s', .ok a) := by
  refine ⟨_, _, _, _, rfl, ?_, ?_, rfl⟩
  · simp [batchGap, Input.names?]
  · simp [gapFree, batchGap, Input.names?, coerceX, Input.shape]

/-! ### reject_is_noop : a rejected call leaves the validation state as it was -/

/-- a validation function never changes the recorded names / dimension when it rejects -/
def NoopOnReject {ι β : Type} (v : VState → ι → VState × Except Reason β) : Prop :=
  ∀ s i e, (v s i).2 = .error e → (v s i).1 = s

theorem validateX_noop (m : Mode) : NoopOnReject (validateX (α := α) m) := by
  intro s x e h
  cases hr : validateX m s x with
  | mk s' r => rw [hr] at h; simp at h; subst h; exact validateX_error hr

/-- ADWIN / CUSUM / PageHinkley (fix 7e2a80e: the guard restores the prior state) -/
theorem validateUni_noop : NoopOnReject (validateUni (α := α)) := by
  intro s x e h
  unfold validateUni at h ⊢
  cases hr : validateX .stream s x with
  | mk s' r =>
    cases r with
    | error e' => simp only; exact validateX_error hr
    | ok a =>
      rw [hr] at h; simp only at h ⊢
      split
      · rfl
      · rename_i hc; simp [hc] at h

/-- the univariate detectors accept only one column -/
theorem validateUni_ok {s s' : VState} {x : Input α} {a : Arr α}
    (h : validateUni s x = (s', .ok a)) : a.cols = 1 ∧ a.rows = 1 ∧ validateX .stream s x = (s', .ok a) := by
  unfold validateUni at h
  cases hr : validateX .stream s x with
  | mk s1 r =>
    rw [hr] at h
    cases r with
    | error e => simp at h
    | ok a1 =>
      simp only at h
      split at h
      · simp at h
      · rename_i hc
        simp at h; obtain ⟨h1, h2⟩ := h; subst h1; subst h2
        exact ⟨by simpa using hc, accept_rows_stream hr, rfl⟩

theorem validateCdbd_noop : NoopOnReject (validateCdbd (α := α)) := by
  intro s x e h
  unfold validateCdbd at h ⊢
  split
  · rfl
  · rename_i hg; simp [hg] at h; exact validateX_noop .batch s x e h

theorem validateCdbd_ok {s s' : VState} {x : Input α} {a : Arr α}
    (h : validateCdbd s x = (s', .ok a)) : a.cols = 1 ∧ 2 ≤ a.rows := by
  unfold validateCdbd at h
  split at h
  · simp at h
  · rename_i hg
    refine ⟨?_, accept_rows_batch h⟩
    have ha := (validateX_ok h).2.1
    subst ha
    cases x <;> simp_all [cdbdGuard, coerceX, Input.shape]

/-- `_validate_input` never touches the state when no `X` is passed (DDM, EDDM, STEPD, LFR, ADWINAccuracy) -/
theorem validateInput_noX_state (m : Mode) (s : VState) (c : Call α) (h : c.x = none) :
    (validateInput m s c).1 = s := by
  unfold validateInput
  rw [h]; simp only
  cases validateYOpt m c.yTrue <;> simp only
  cases validateYOpt m c.yPred <;> simp only

/-- `_validate_input(X, None, None)` (every detector that monitors `X`) is a no-op when it rejects -/
theorem validateInput_onlyX_noop (m : Mode) (s : VState) (c : Call α) (e : Reason)
    (hy : c.yTrue = none) (hp : c.yPred = none) (h : (validateInput m s c).2 = .error e) :
    (validateInput m s c).1 = s := by
  unfold validateInput at h ⊢
  rw [hy, hp] at h ⊢
  cases hx : c.x with
  | none => simp [validateYOpt]
  | some x =>
    rw [hx] at h; simp only at h ⊢
    cases hr : validateX m s x with
    | mk s' r =>
      rw [hr] at h
      cases r with
      | error e' => simp only; exact validateX_error hr
      | ok a => simp [validateYOpt] at h

/-- latent in the base class (no public detector passes `X` together with labels): `X` is committed
    before the labels are looked at, so a call rejected for its `y` still records the width of `X` -/
example : validateInput .stream VState.init
      { x := some (Input.ndarray1d [1, 2] : Input Nat), yTrue := some (Input.list [1, 0]) }
    = ({ cols := none, dim := some 2 }, .error .yobs) := by rfl

theorem validateLabels_state (s : VState) (yy : Input α × Input α) : (validateLabels s yy).1 = s := by
  unfold validateLabels
  have h := validateInput_noX_state .stream s { yTrue := some yy.1, yPred := some yy.2 } rfl
  cases hr : validateInput .stream s { yTrue := some yy.1, yPred := some yy.2 } with
  | mk s' r =>
    rw [hr] at h; simp at h; subst h
    cases r with
    | error e => rfl
    | ok v => simp only; cases v.yTrue <;> cases v.yPred <;> rfl

theorem validateLabels_noop : NoopOnReject (validateLabels (α := α)) :=
  fun s yy _ _ => validateLabels_state s yy

/-- the label detectors accept exactly one `y_true` and one `y_pred` -/
theorem validateLabels_ok {s s' : VState} {yy : Input α × Input α} {p : Arr α × Arr α}
    (h : validateLabels s yy = (s', .ok p)) : yy.1.size = 1 ∧ yy.2.size = 1 := by
  unfold validateLabels validateInput at h
  simp only [validateYOpt, validateY] at h
  by_cases h1 : yy.1.size = 1 <;> by_cases h2 : yy.2.size = 1 <;> simp [h1, h2] at h
  exact ⟨h1, h2⟩

theorem validateAccuracy_noop (agree : Arr α × Arr α → α) : NoopOnReject (validateAccuracy agree) := by
  intro s yy e h
  unfold validateAccuracy at h ⊢
  have hs := validateLabels_state s yy
  cases hr : validateLabels s yy with
  | mk s' r =>
    rw [hr] at hs h; simp at hs; subst hs
    cases r with
    | error e' => rfl
    | ok p => simp only at h ⊢; exact validateUni_noop _ _ e h

/-- `set_reference` of HDDDM / CDBD with `detect_batch = 1`, every way it can come out: the validation it starts
    with (CDBD's guard in front of the batch base, or the batch base alone) rejects and the state is as it was;
    or that validation accepts, and the proxy update then rejects a reference whose second half has fewer than
    two rows — with the state already committed -/
theorem validateHdmRef_cases (g : Bool) (s : VState) (x : Input α) :
    (∃ e, validateHdmRef g s x = (s, .error e)) ∨
    ∃ s' a, validateX .batch s x = (s', .ok a) ∧
      (if g then validateCdbd s x else validateX .batch s x) = (s', .ok a) ∧
      validateHdmRef g s x = if a.rows - a.rows / 2 ≤ 1 then (s', .error .rows) else (s', .ok a) := by
  have hno : NoopOnReject (fun s (x : Input α) => if g then validateCdbd s x else validateX .batch s x) := by
    cases g
    · exact validateX_noop .batch
    · exact validateCdbd_noop
  unfold validateHdmRef hdmProxy
  cases hr : (if g then validateCdbd s x else validateX .batch s x) with
  | mk s' r =>
    cases r with
    | error e =>
      have : s' = s := (congrArg Prod.fst hr).symm.trans (hno s x e (congrArg Prod.snd hr))
      exact .inl ⟨e, this ▸ rfl⟩
    | ok a =>
      refine .inr ⟨s', a, ?_, rfl, by by_cases hp : a.rows - a.rows / 2 ≤ 1 <;> simp only [hp, if_true, if_false]⟩
      cases g
      · exact hr
      · rw [if_pos rfl, validateCdbd] at hr
        split at hr
        · cases hr
        · exact hr

/-- HDDDM / CDBD with `detect_batch = 1`: `set_reference` is a no-op when it rejects, except for a
    2-row reference, which passes validation (state committed, reference stored) and is then rejected
    from inside the internal proxy update.  `_partial`: the 2-row case is a real trace of a rejected call. -/
theorem validateHdmRef_noop_partial (g : Bool) (s : VState) (x : Input α) (e : Reason)
    (h : (validateHdmRef g s x).2 = .error e) :
    (validateHdmRef g s x).1 = s ∨ (coerceX .batch x).rows = 2 := by
  rcases validateHdmRef_cases g s x with ⟨e', he⟩ | ⟨s', a, hx, -, he⟩ <;> rw [he] at h ⊢
  · exact .inl rfl
  · right
    -- the proxy update rejected: an accepted batch has at least two rows, and its second half fewer than two
    have h2 := accept_rows_batch hx
    rw [← (validateX_ok hx).2.1]
    split at h
    · omega
    · cases h

/-- HDDDM(detect_batch=1): `set_reference` with a bare array records the width only (the internal proxy
    update is an array and records no names); a DataFrame carrying real names is then accepted and
    establishes the names -/
theorem hdm_array_reference_then_frame_accepted :
    let s := (validateHdmRef false VState.init (Input.ndarray2d 8 2 (List.replicate 16 0) : Input Nat)).1
    s = { cols := none, dim := some 2 } ∧
    validateX .batch s (Input.dataframe ["a", "b"] 8 (List.replicate 16 0))
      = ({ cols := some ["a", "b"], dim := some 2 }, .ok ⟨8, 2, List.replicate 16 0⟩) := by
  refine ⟨rfl, rfl⟩

/-- an accepted `set_reference` of HDDDM / CDBD(detect_batch=1) leaves exactly the state of the plain validation -/
theorem validateHdmRef_ok_state (g : Bool) (s s' : VState) (x : Input α) (a : Arr α)
    (h : validateHdmRef g s x = (s', .ok a)) :
    (if g then validateCdbd s x else validateX .batch s x) = (s', .ok a) := by
  rcases validateHdmRef_cases g s x with ⟨e, he⟩ | ⟨s1, a1, -, hb, he⟩ <;> rw [he] at h
  · cases h
  · split at h <;> cases h
    exact hb

/-! ### … hence a rejected call does no harm to any later update

  Every detector's `update` is `[pending reset]; validate; count; algorithm` (`Skel`; `accepted` stands for
  `total_samples` / `total_batches`).  If the pending reset is idempotent and validation is a no-op on
  rejection, then after a rejected call the detector answers every later call exactly like a twin that
  never saw it.  `Skel` is not run by the driver and no detector model is an instance of it: that the
  public detectors have this shape (the pending reset first, also when the call is then rejected) is
  observed only by part B of harness/checks/c14.py, which compares every detector after a rejected call
  with a twin that never saw it. -/

variable {ι β σ : Type}

theorem Skel.update_rejected (k : Skel ι β σ) (hno : NoopOnReject k.validate) (s : DState σ) (bad : ι)
    (r : Reason) (hb : (k.update s bad).2 = some r) :
    (k.update s bad).1 = { s with inner := k.pre s.inner } := by
  unfold Skel.update at hb ⊢
  cases hv : k.validate s.v bad with
  | mk v' res =>
    cases res with
    | ok b => rw [hv] at hb; simp at hb
    | error e =>
      have := hno s.v bad e (by rw [hv])
      rw [hv] at this; simp at this; subst this; rfl

/-- not counted as an update, names / dimension untouched -/
theorem Skel.rejected_not_counted (k : Skel ι β σ) (hno : NoopOnReject k.validate) (s : DState σ) (bad : ι)
    (r : Reason) (hb : (k.update s bad).2 = some r) :
    (k.update s bad).1.accepted = s.accepted ∧ (k.update s bad).1.v = s.v := by
  rw [k.update_rejected hno s bad r hb]; exact ⟨rfl, rfl⟩

theorem Skel.update_after_rejected (k : Skel ι β σ) (hpre : ∀ t, k.pre (k.pre t) = k.pre t)
    (hno : NoopOnReject k.validate) (s : DState σ) (bad : ι) (r : Reason)
    (hb : (k.update s bad).2 = some r) (i : ι) :
    k.update (k.update s bad).1 i = k.update s i := by
  rw [k.update_rejected hno s bad r hb]
  unfold Skel.update
  simp only [hpre]

/-- **reject_is_noop**, trace form: after a rejected call, the states and outcomes of all later calls
    equal those of the twin that never saw it -/
theorem Skel.trace_after_rejected (k : Skel ι β σ) (hpre : ∀ t, k.pre (k.pre t) = k.pre t)
    (hno : NoopOnReject k.validate) (s : DState σ) (bad : ι) (r : Reason)
    (hb : (k.update s bad).2 = some r) (ys : List ι) :
    k.trace (k.update s bad).1 ys = k.trace s ys := by
  cases ys with
  | nil => rfl
  | cons y ys => simp only [Skel.trace, k.update_after_rejected hpre hno s bad r hb y]

theorem Skel.trace_append (k : Skel ι β σ) (s : DState σ) (xs ys : List ι) :
    k.trace s (xs ++ ys) = k.trace s xs ++ k.trace (k.run s xs) ys := by
  induction xs generalizing s with
  | nil => rfl
  | cons x xs ih => simp [Skel.trace, Skel.run, ih]

/-- **reject_is_noop**, history form: the traces of `xs ++ [bad] ++ ys` and of `xs ++ ys`, both split at
    the end of `xs`, have the same part before and the same part after the rejected call.  The first
    equation carries the hypotheses; the second is `Skel.trace_append` and is there to be compared with. -/
theorem reject_is_noop (k : Skel ι β σ) (hpre : ∀ t, k.pre (k.pre t) = k.pre t)
    (hno : NoopOnReject k.validate) (s0 : DState σ) (xs ys : List ι) (bad : ι) (r : Reason)
    (hb : (k.update (k.run s0 xs) bad).2 = some r) :
    k.trace s0 (xs ++ bad :: ys)
      = k.trace s0 xs ++ k.update (k.run s0 xs) bad :: k.trace (k.run s0 xs) ys ∧
    k.trace s0 (xs ++ ys) = k.trace s0 xs ++ k.trace (k.run s0 xs) ys := by
  refine ⟨?_, k.trace_append s0 xs ys⟩
  rw [k.trace_append]
  simp only [Skel.trace]
  rw [k.trace_after_rejected hpre hno _ bad r hb]

/-- the skeleton of ADWIN / CUSUM / PageHinkley for an arbitrary algorithm state: pending reset when
    `drifted`, univariate validation, then the algorithm -/
def uniSkel (drifted : σ → Bool) (reset : σ → σ) (step : σ → Arr α → σ) : Skel (Input α) (Arr α) σ :=
  { validate := validateUni, pre := fun t => if drifted t then reset t else t, step := step }

/-- the trace form (`Skel.trace_after_rejected`) for `uniSkel`, whose pending reset is idempotent as soon
    as `reset` clears the drift flag -/
theorem uni_reject_is_noop (drifted : σ → Bool) (reset : σ → σ) (step : σ → Arr α → σ)
    (hreset : ∀ t, drifted (reset t) = false)
    (s0 : DState σ) (xs ys : List (Input α)) (bad : Input α) (r : Reason)
    (hb : ((uniSkel drifted reset step).update ((uniSkel drifted reset step).run s0 xs) bad).2 = some r) :
    (uniSkel drifted reset step).trace ((uniSkel drifted reset step).update ((uniSkel drifted reset step).run s0 xs) bad).1 ys
      = (uniSkel drifted reset step).trace ((uniSkel drifted reset step).run s0 xs) ys := by
  apply Skel.trace_after_rejected _ _ validateUni_noop _ _ r hb
  intro t
  simp only [uniSkel]
  by_cases h : drifted t = true
  · simp [h, hreset]
  · simp [h]

-- non-vacuity: a counting "detector"; the 2-column call is rejected, not counted, and leaves no trace
example :
    let k : Skel (Input Nat) (Arr Nat) Nat := uniSkel (fun n => n ≥ 3) (fun _ => 0) (fun n _ => n + 1)
    let s0 : DState Nat := ⟨VState.init, 0, 0⟩
    (k.update (k.run s0 [.scalar 5, .list [6]]) (.ndarray1d [1, 2])).2 = some .width ∧
    (k.update s0 (.ndarray1d [1, 2])).2 = some .univariate ∧
    (k.run s0 [.scalar 5, .list [6], .ndarray1d [1, 2], .series [7]]).accepted = 3 ∧
    k.run s0 [.scalar 5, .list [6], .ndarray1d [1, 2], .series [7]] = k.run s0 [.scalar 5, .list [6], .series [7]] := by
  intro k s0
  exact ⟨by decide, by decide, rfl, rfl⟩

/-! ### container_irrelevant : the validated value depends only on the values -/

/-- what `_validate_X` decides, written on the coerced array alone (no container, no names) -/
def decideArr (m : Mode) (s : VState) (a : Arr α) : Except Reason (Arr α) :=
  match s.dim with
  | some d => if a.cols ≠ d then .error .width else if rowsOk m a.rows then .ok a else .error .rows
  | none => if rowsOk m a.rows then .ok a else .error .rows

/-- for inputs whose names (if any) agree with the recorded ones — and, on the batch base, that are not
    in the F8d gap — the outcome of `_validate_X` is a function of the coerced array -/
theorem validateX_by_value (m : Mode) (s : VState) (x : Input α) (hi : Inv s) (hn : NamesOk s x)
    (hg : m = .batch → ¬ batchGap s x) :
    (validateX m s x).2 = decideArr m s (coerceX m x) ∧
    (validateX m s x).1.dim = (match (validateX m s x).2 with
      | .ok a => some a.cols
      | .error _ => s.dim) := by
  unfold validateX decideArr
  rcases candidate_cases m x hi with ⟨-, h⟩ | ⟨e, d, hd, hne⟩ | ⟨e, -, hw⟩
  · exact absurd hn h
  · rw [e, hd]
    exact ⟨(if_pos hne).symm, rfl⟩
  · -- the candidate is accepted and, by `hw`, so is the width by `decideArr`: both sides are the row test
    rw [e]
    cases hd : s.dim <;> by_cases hr : rowsOk m (coerceX m x).rows = true <;> simp [hr, hd, hw hg]

/-- **container_irrelevant**, one call: two inputs that coerce to the same array (same shape, same values),
    whatever their containers, get the same decision and the same validated array, and leave the same
    dimension behind -/
theorem container_irrelevant_step (m : Mode) (s t : VState) (x x' : Input α)
    (hs : Inv s) (ht : Inv t) (hd : s.dim = t.dim)
    (hv : coerceX m x = coerceX m x') (hn : NamesOk s x) (hn' : NamesOk t x')
    (hg : m = .batch → ¬ batchGap s x) (hg' : m = .batch → ¬ batchGap t x') :
    (validateX m s x).2 = (validateX m t x').2 ∧ (validateX m s x).1.dim = (validateX m t x').1.dim := by
  have h1 := validateX_by_value m s x hs hn hg
  have h2 := validateX_by_value m t x' ht hn' hg'
  have hdec : decideArr m s (coerceX m x) = decideArr m t (coerceX m x') := by
    unfold decideArr; rw [hd, hv]
  refine ⟨by rw [h1.1, h2.1, hdec], ?_⟩
  rw [h1.2, h2.2, h1.1, h2.1, hdec, hd]

/-- the outcomes of a history of bare `_validate_X` calls -/
def outsX (m : Mode) : VState → List (Input α) → List (Except Reason (Arr α))
  | _, [] => []
  | s, x :: xs => (validateX m s x).2 :: outsX m (validateX m s x).1 xs

/-- every DataFrame of the history carries the names `ns` -/
def FramesNamed (ns : List String) (xs : List (Input α)) : Prop :=
  ∀ x ∈ xs, ∀ n, x.names? = some n → n = ns

/-- recorded names are `ns` or absent -/
def ColsIn (ns : List String) (s : VState) : Prop := s.cols = none ∨ s.cols = some ns

theorem namesOk_of_colsIn {ns : List String} {s : VState} {x : Input α} (hc : ColsIn ns s)
    (hx : ∀ n, x.names? = some n → n = ns) : NamesOk s x := by
  intro n cs h1 h2
  rcases hc with h | h <;> rw [h] at h2 <;> cases h2
  exact hx n h1

theorem colsIn_step (m : Mode) (ns : List String) (s : VState) (x : Input α) (hi : Inv s)
    (hc : ColsIn ns s) (hx : ∀ n, x.names? = some n → n = ns) : ColsIn ns (validateX m s x).1 := by
  rcases validateX_fst m x hi with h | ⟨h, -⟩ <;> rw [h]
  · exact hc
  · cases hn : x.names? with
    | none => exact hc
    | some n => exact .inr (congrArg some (hx n hn))

/-- two histories carry pairwise the same values: every pair of calls coerces to the same array -/
inductive SameValues (m : Mode) : List (Input α) → List (Input α) → Prop where
  | nil : SameValues m [] []
  | cons {x x' : Input α} {xs xs' : List (Input α)} :
      coerceX m x = coerceX m x' → SameValues m xs xs' → SameValues m (x :: xs) (x' :: xs')

/-- **container_irrelevant**, streaming, whole histories: two histories whose calls pairwise carry the same
    values (same coerced arrays) in any containers — scalars, lists, arrays, Series, DataFrames with the
    column names `ns` — produce the same sequence of decisions and validated arrays -/
theorem container_irrelevant (ns : List String) (xs xs' : List (Input α)) (s t : VState)
    (hs : Inv s) (ht : Inv t) (hd : s.dim = t.dim) (hcs : ColsIn ns s) (hct : ColsIn ns t)
    (hv : SameValues .stream xs xs')
    (hf : FramesNamed ns xs) (hf' : FramesNamed ns xs') :
    outsX .stream s xs = outsX .stream t xs' := by
  induction hv generalizing s t with
  | nil => rfl
  | @cons x x' xs xs' hxx _ ih =>
    have hnx : ∀ n, x.names? = some n → n = ns := hf x (List.mem_cons_self ..)
    have hnx' : ∀ n, x'.names? = some n → n = ns := hf' x' (List.mem_cons_self ..)
    have st := container_irrelevant_step .stream s t x x' hs ht hd hxx (namesOk_of_colsIn hcs hnx)
      (namesOk_of_colsIn hct hnx') (by nofun) (by nofun)
    simp only [outsX]
    rw [st.1]
    congr 1
    exact ih _ _ (validateX_inv x hs) (validateX_inv x' ht) st.2
      (colsIn_step .stream ns s x hs hcs hnx) (colsIn_step .stream ns t x' ht hct hnx')
      (fun z hz => hf z (List.mem_cons_of_mem _ hz)) (fun z hz => hf' z (List.mem_cons_of_mem _ hz))

/-- batch: the one-call statement `container_irrelevant_step` holds outside the F8d gap; inside it the
    container matters: the same 2×3 values are rejected as an array and accepted as a DataFrame -/
theorem container_matters_in_batch_gap :
    let s := runX .batch VState.init [(Input.ndarray2d 6 1 [1, 2, 3, 4, 5, 6] : Input Nat)]
    coerceX .batch (Input.ndarray2d 2 3 [1, 2, 3, 4, 5, 6] : Input Nat)
      = coerceX .batch (Input.dataframe ["a", "b", "c"] 2 [1, 2, 3, 4, 5, 6]) ∧
    (validateX .batch s (Input.ndarray2d 2 3 [1, 2, 3, 4, 5, 6])).2 = .error .width ∧
    (validateX .batch s (Input.dataframe ["a", "b", "c"] 2 [1, 2, 3, 4, 5, 6])).2 = .ok ⟨2, 3, [1, 2, 3, 4, 5, 6]⟩ := by
  refine ⟨rfl, rfl, rfl⟩

-- non-vacuity of `container_irrelevant`: scalar / list / array / Series / DataFrame of the same values
example : outsX .stream VState.init [(Input.scalar 4 : Input Nat), .list [5], .dataframe ["a"] 1 [6], .ndarray2d 2 1 [7, 8]]
    = outsX .stream VState.init [.series [4], .ndarray2d 1 1 [5], .ndarray1d [6], .dataframe ["a"] 2 [7, 8]] := by rfl

end MV.Validate
