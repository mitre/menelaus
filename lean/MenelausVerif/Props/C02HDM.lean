/-
  C02 for HDDDM / CDBD (the shared `HistogramDensityMethod`, `Model/HDM.lean`): after a reported drift, and
  after `set_reference`, the detector behaves like a newly constructed one on which `set_reference` was
  called with the drifted batch (`fresh`), the batch count and the keys of the public records shifted.
  No arithmetic law is used (both sides perform the same operations), so everything holds for every
  carrier, the executed `Float` included.  The oracle inputs (bootstrap ε₀, `t` critical value, a user
  divergence) are the same on both sides, per call; related states present the same data to them
  (`SameUpTo.oracleView_eq`).

  `SameUpTo` says field by field what is equal and from which point of the epoch on (`reset()` leaves
  some attributes stale).  The body of `update` keeps it, `reset` establishes it from the few fields it
  does not overwrite (`Weak`), so every public call keeps it and the `reset` that opens the update
  after a drift establishes it against `fresh`.  With `detect_batch = 1` both sides split the drifted
  batch by position — first `⌊n/2⌋` rows reference, the rest a counted proxy batch — so
  `batches_since_reset` restarts at 2 and the twin starts with `total_batches = 1`.

  Scope.  (1) The continuation after a drift starts with an `update` (the property: "from the
  update that follows a reported drift onwards"); a `set_reference` issued while a drift is pending
  is covered by `setReference_twin` (offset = batch count at the call — with `detect_batch = 1` the
  pending `reset`'s proxy batch is then never counted, so the offset is not that of `twin`).
  (2) `setReference_twin` is about *accepted* calls: a reference whose width differs from the
  established `_input_col_dim` is rejected by the running detector and accepted by a new one.
-/
import MenelausVerif.Props.C02
import MenelausVerif.Lemmas.HDMStep
namespace MV.HDM
open MV
set_option linter.unusedSectionVars false

/- The public records `distances`, `epsilon_values`, `thresholds` as lists of (batch count, value): what a shift
   of the keys and what appending under later keys keep.  No operation of the carrier is involved. -/
section records
variable {α : Type}

/-- keys (batch indices) of a public record moved by `off` -/
def shiftKeys (off : Nat) (l : List (Nat × α)) : List (Nat × α) := l.map (fun p => (p.1 + off, p.2))

/-- the entries of the running detector's record `r` with a key of the current epoch (`> off`) are
    exactly the twin's entries `r'`, in the same order, keys shifted by `off` -/
def RecShift (off : Nat) (r r' : List (Nat × α)) : Prop :=
  r.filter (fun p => decide (off < p.1)) = shiftKeys off r'

theorem RecShift.nil {off : Nat} {r : List (Nat × α)} (h : ∀ p ∈ r, p.1 ≤ off) : RecShift off r [] :=
  List.filter_eq_nil_iff.2 fun p hp => by
    rw [decide_eq_true_eq]
    exact Nat.not_lt.2 (h p hp)

theorem RecShift.snoc {off : Nat} {r r' : List (Nat × α)} (h : RecShift off r r') (k : Nat) (x : α) :
    RecShift off (r ++ [(k + off + 1, x)]) (r' ++ [(k + 1, x)]) := by
  unfold RecShift shiftKeys at *
  have hk : decide (off < (k + off + 1, x).1) = true :=
    decide_eq_true (Nat.lt_succ_of_le (Nat.le_add_left off k))
  rw [List.filter_append, h, List.map_append,
    List.filter_cons_of_pos (p := fun p : Nat × α => decide (off < p.1)) hk]
  show _ ++ [(k + off + 1, x)] = _ ++ [(k + 1 + off, x)]
  rw [Nat.add_right_comm]

/-- every key of the three public records is a batch count already passed -/
def KeysLe (s : State α) : Prop :=
  (∀ p ∈ s.distances, p.1 ≤ s.total) ∧ (∀ p ∈ s.epsValues, p.1 ≤ s.total) ∧
  (∀ p ∈ s.thresholds, p.1 ≤ s.total)

/-- `r'` is `r` followed by entries with keys in `(n, m]` -/
def RecGrow (n m : Nat) (r r' : List (Nat × α)) : Prop := ∃ l, r' = r ++ l ∧ ∀ p ∈ l, n < p.1 ∧ p.1 ≤ m

theorem RecGrow.refl {n m : Nat} (r : List (Nat × α)) : RecGrow n m r r :=
  ⟨[], (List.append_nil r).symm, nofun⟩

theorem RecGrow.snoc {n : Nat} (r : List (Nat × α)) (x : α) : RecGrow n (n + 1) r (r ++ [(n + 1, x)]) :=
  ⟨_, rfl, fun _ hp => List.mem_singleton.1 hp ▸ ⟨Nat.lt_succ_self n, Nat.le_refl _⟩⟩

theorem RecGrow.ite {n m : Nat} {r r' : List (Nat × α)} {p : Prop} [Decidable p] (h : RecGrow n m r r') :
    RecGrow n m r (if p then r' else r) := by
  split
  · exact h
  · exact .refl r

theorem RecGrow.trans {n m k : Nat} {a b c : List (Nat × α)} (hnm : n ≤ m) (hmk : m ≤ k)
    (h1 : RecGrow n m a b) (h2 : RecGrow m k b c) : RecGrow n k a c := by
  obtain ⟨l1, rfl, k1⟩ := h1
  obtain ⟨l2, rfl, k2⟩ := h2
  refine ⟨l1 ++ l2, List.append_assoc .., fun p hp => ?_⟩
  rcases List.mem_append.1 hp with hp | hp
  · exact ⟨(k1 p hp).1, Nat.le_trans (k1 p hp).2 hmk⟩
  · exact ⟨Nat.lt_of_le_of_lt hnm (k2 p hp).1, (k2 p hp).2⟩

theorem RecGrow.keysLe {n m : Nat} {r r' : List (Nat × α)} (h : RecGrow n m r r') (hnm : n ≤ m)
    (hr : ∀ p ∈ r, p.1 ≤ n) : ∀ p ∈ r', p.1 ≤ m := by
  obtain ⟨l, rfl, hl⟩ := h
  intro p hp
  rcases List.mem_append.1 hp with hp | hp
  · exact Nat.le_trans (hr p hp) hnm
  · exact (hl p hp).2

theorem RecGrow.split {off m : Nat} {r r' t : List (Nat × α)} (h : RecGrow off m r r')
    (hk : ∀ p ∈ r, p.1 ≤ off) (hs : RecShift off r' t) : r' = r ++ shiftKeys off t := by
  obtain ⟨l, rfl, hl⟩ := h
  unfold RecShift at hs
  rw [List.filter_append, show r.filter _ = [] from RecShift.nil hk,
    List.filter_eq_self.2 fun p hp => decide_eq_true (hl p hp).1, List.nil_append] at hs
  rw [hs]

/-- every accepted call appends to each record only entries keyed with the batch counts it passes -/
structure Grows (s s' : State α) : Prop where
  total : s.total ≤ s'.total
  distances : RecGrow s.total s'.total s.distances s'.distances
  epsValues : RecGrow s.total s'.total s.epsValues s'.epsValues
  thresholds : RecGrow s.total s'.total s.thresholds s'.thresholds

theorem Grows.refl (s : State α) : Grows s s := ⟨Nat.le_refl _, .refl _, .refl _, .refl _⟩

theorem Grows.trans {a b c : State α} (h1 : Grows a b) (h2 : Grows b c) : Grows a c :=
  ⟨Nat.le_trans h1.total h2.total, h1.distances.trans h1.total h2.total h2.distances,
   h1.epsValues.trans h1.total h2.total h2.epsValues, h1.thresholds.trans h1.total h2.total h2.thresholds⟩

theorem Grows.keysLe {s s' : State α} (h : Grows s s') (hk : KeysLe s) : KeysLe s' :=
  ⟨h.distances.keysLe h.total hk.1, h.epsValues.keysLe h.total hk.2.1, h.thresholds.keysLe h.total hk.2.2⟩

/-- `RecGrow` without the upper bound -/
def RecExt (n : Nat) (r r' : List (Nat × α)) : Prop := ∃ l, r' = r ++ l ∧ ∀ p ∈ l, n < p.1

theorem RecGrow.recExt {n m : Nat} {r r' : List (Nat × α)} (h : RecGrow n m r r') : RecExt n r r' :=
  h.imp fun _ hl => ⟨hl.1, fun p hp => (hl.2 p hp).1⟩

structure Extends (s s' : State α) : Prop where
  total : s.total ≤ s'.total
  distances : RecExt s.total s.distances s'.distances
  epsValues : RecExt s.total s.epsValues s'.epsValues
  thresholds : RecExt s.total s.thresholds s'.thresholds

theorem Grows.extends {s s' : State α} (h : Grows s s') : Extends s s' :=
  ⟨h.total, h.distances.recExt, h.epsValues.recExt, h.thresholds.recExt⟩

end records

section anyCarrier
variable {α : Type} [Add α] [Sub α] [Mul α] [Div α] [Neg α] [LT α] [DecidableLT α]
  [LE α] [DecidableLE α] [NatCast α] [BEq α] [HasSqrt α] [HasLogExp α] [HasLog1p α] [HasTrunc α]

/-- a relation lifted to the results of calls that may be rejected: both accepted and related, or
    both rejected (e.g. `detect_batch = 1` and a drifted batch of fewer than 3 rows: finding F20).
    The same relation as `Twin.OptRel` (`Props/C02.lean`) under the name the statements of this file
    use; the two unfold to the same term, so the lemmas below are `Twin.OptRel`'s. -/
def RelOpt {σ τ : Type} (R : σ → τ → Prop) : Option σ → Option τ → Prop
  | some s, some t => R s t
  | none, none => True
  | _, _ => False

namespace RelOpt
variable {σ τ σ' τ' : Type} {R : σ → τ → Prop} {Q : σ' → τ' → Prop} {a : Option σ} {b : Option τ}

theorem cases (h : RelOpt R a b) : (a = none ∧ b = none) ∨ ∃ x y, a = some x ∧ b = some y ∧ R x y :=
  Twin.OptRel.cases h

theorem isSome_eq (h : RelOpt R a b) : a.isSome = b.isSome :=
  Twin.OptRel.isSome_eq h

theorem bind {f : σ → Option σ'} {g : τ → Option τ'} (h : RelOpt R a b)
    (hfg : ∀ x y, a = some x → b = some y → R x y → RelOpt Q (f x) (g y)) : RelOpt Q (a.bind f) (b.bind g) :=
  Twin.OptRel.bind h hfg

end RelOpt

/-- **`SameUpTo c off s t`**: the running detector `s` equals the fresh twin `t` up to the offset
    `off` of the batch count.  Everything a later call reads is equal; attributes that `reset()` leaves
    stale are equal from the point of the epoch where they are first written (and are proved not to
    be read before: `updateCore_sameUpTo` needs nothing else); the public records correspond on
    the keys `> off`.  The last two fields speak of `t` alone: the relation includes that the twin is
    well formed. -/
structure SameUpTo (c : Cfg α) (off : Nat) (s t : State α) : Prop where
  /-- `_input_col_dim` -/
  dim : s.dim = t.dim
  hasRef : s.hasRef = t.hasRef
  /-- `total_batches` -/
  total : s.total = t.total + off
  /-- `_lambda`: shifted like `total_batches`, so `d_scale = total_batches − _lambda − 1` agrees -/
  lambda : s.lambda = t.lambda + off
  /-- `batches_since_reset` -/
  since : s.since = t.since
  drift : s.drift = t.drift
  reference : s.reference = t.reference
  /-- `reference_n` (read by the `t` critical value and the bootstrap — the oracle inputs) -/
  refN : s.refN = t.refN
  bins : s.bins = t.bins
  /-- `epsilon` (the whole list) and `total_epsilon` -/
  eps : s.eps = t.eps
  totalEps : s.totalEps = t.totalEps
  /-- `_prev_distance`, `_prev_feature_distances`: not cleared by `reset()`, first read by the epoch's
      second batch, rewritten by its first -/
  prev : 1 ≤ t.since → s.prevDist = t.prevDist ∧ s.prevFeat = t.prevFeat
  /-- `current_distance` -/
  curDist : 1 ≤ t.since → s.curDist = t.curDist
  /-- `feature_epsilons`: the epoch's first batch subtracts the stale `_prev_feature_distances` -/
  featEps : 2 ≤ t.since → s.featEps = t.featEps
  /-- `beta`: stale until the first test of the epoch -/
  beta : testsDrift c t.since = true → s.beta = t.beta
  /-- `feature_info`: written only when a drift is flagged on more than one feature -/
  featInfo : t.drift = .drift → ∀ d, t.dim = some d → 1 < d → s.featInfo = t.featInfo
  /-- `distances`, `epsilon_values`, `thresholds` on the keys of the twin's lifetime -/
  distances : RecShift off s.distances t.distances
  epsValues : RecShift off s.epsValues t.epsValues
  thresholds : RecShift off s.thresholds t.thresholds
  /-- well-formedness of the twin side (holds for `init`, kept by every call) -/
  noWarn : t.drift ≠ .warning
  sinceLe : t.since ≤ t.total

/-- `d_scale = total − λ − 1` (and with it ε̂, σ, β) is invariant under a common shift of
    `total_batches` and `_lambda` -/
theorem adaptive_shift (c : Cfg α) (tcrit : α) (since total lambda off : Nat) (eps : List α) (te : α) :
    adaptive c tcrit since (total + off) (lambda + off) eps te = adaptive c tcrit since total lambda eps te := by
  unfold adaptive
  rw [Nat.add_sub_add_right]

/-- read as dicts: the running detector's entry for batch `k + off` is the twin's entry for batch `k` -/
theorem RecShift.mem_iff {off : Nat} {r r' : List (Nat × α)} (h : RecShift off r r') (k : Nat) (x : α)
    (hk : 0 < k) : (k + off, x) ∈ r ↔ (k, x) ∈ r' := by
  unfold RecShift shiftKeys at h
  have h1 : (k + off, x) ∈ r.filter (fun p => decide (off < p.1)) ↔ (k + off, x) ∈ r := by
    simp only [List.mem_filter, decide_eq_true_eq, and_iff_left_iff_imp]
    exact fun _ => Nat.lt_add_of_pos_left hk
  rw [← h1, h]
  simp only [List.mem_map, Prod.mk.injEq, Prod.exists]
  constructor
  · rintro ⟨a, b, hab, h2, rfl⟩
    cases Nat.add_right_cancel h2
    exact hab
  · intro hm
    exact ⟨k, x, hm, rfl, rfl⟩

/-- the oracle values have to agree from the epoch's second batch on only: the first reads none -/
theorem updateCore_rel (c : Cfg α) (o o' : Oracle α) (off : Nat) (s t : State α) (dim : Nat)
    (X : List (List α)) (h : SameUpTo c off s t) (hn : t.drift = .none) (ho : 1 ≤ t.since → o' = o) :
    SameUpTo c off (updateCore c o s dim X) (updateCore c o' t dim X) := by
  have hfd : stepFd c s dim X = stepFd c t dim X := by simp only [stepFd, h.bins, h.reference]
  have hdist : stepDist c s dim X = stepDist c t dim X := by simp only [stepDist, hfd]
  have hd1 := h.distances.snoc t.total (stepDist c t dim X)
  by_cases h1 : 1 ≤ t.since
  · -- a later batch of the epoch: everything `update` reads is equal (up to the shift)
    cases ho h1
    rw [updateCore_eq, updateCore_eq]
    obtain ⟨hpd, hpf⟩ := h.prev h1
    have heps : stepEps c s dim X = stepEps c t dim X := by simp only [stepEps, hdist, hpd]
    have hlist : stepEpsList c o s dim X = stepEpsList c o t dim X := by
      simp only [stepEpsList, h.since, h.eps, heps]
    have hthr : stepThr c o s dim X = stepThr c o t dim X := by
      unfold stepThr
      rw [h.since, h.total, h.lambda, hlist, h.totalEps, Nat.add_right_comm, adaptive_shift]
    have hpos : 1 < t.total + 1 := Nat.succ_lt_succ (Nat.lt_of_lt_of_le h1 h.sinceLe)
    have hfe : stepFeatEps c s dim X = stepFeatEps c t dim X := by
      unfold stepFeatEps
      rw [if_pos (h.total ▸ Nat.lt_of_lt_of_le hpos (Nat.succ_le_succ (Nat.le_add_right ..))), if_pos hpos,
        hfd, hpf]
    have hal : alarm c o s dim X = alarm c o t dim X := by unfold alarm; rw [h.since, hthr, heps]
    have h2 : 2 ≤ t.since + 1 := Nat.succ_le_succ h1
    -- the two sides now differ in the count, `_lambda`, the records and the stale attributes only
    simp only [hal, h.since, hthr, heps, hlist, hfe, hfd, hdist, h2, if_true, h.total, h.lambda, h.refN,
      h.bins, h.reference, h.eps, h.totalEps, h.drift, hpd, hpf]
    exact {
      dim := rfl, hasRef := h.hasRef, total := Nat.add_right_comm .., since := rfl, drift := rfl,
      reference := rfl, refN := rfl, bins := rfl, eps := rfl, totalEps := rfl
      lambda := by dsimp only; split
                   · exact Nat.add_right_comm ..
                   · rfl
      prev := fun _ => ⟨rfl, rfl⟩, curDist := fun _ => rfl, featEps := fun _ => rfl
      beta := fun ht => by dsimp only at ht ⊢; rw [if_pos ht, if_pos ht]
      featInfo := fun hd d hdim hd1 => by
        dsimp only at hd hdim ⊢
        have ha : alarm c o t dim X = true := by
          cases ha : alarm c o t dim X with
          | true => rfl
          | false => rw [ha, hn] at hd; cases hd
        cases hdim
        rw [if_pos ⟨ha, hd1⟩, if_pos ⟨ha, hd1⟩]
      distances := hd1
      epsValues := h.epsValues.snoc t.total (stepEps c t dim X)
      thresholds := by
        dsimp only; split
        · exact h.thresholds.snoc t.total (stepThr c o t dim X).beta
        · exact h.thresholds
      noWarn := by dsimp only; split
                   · nofun
                   · rw [hn]; nofun
      sinceLe := Nat.succ_le_succ h.sinceLe }
  · -- the first batch of the epoch is only measured and appended; no oracle value is read
    have h0 : t.since = 0 := Nat.eq_zero_of_not_pos h1
    rw [updateCore_first c o dim X (h.since.trans h0), updateCore_first c o' dim X h0]
    simp only [hfd, hdist, h.total, h.reference]
    exact {
      dim := rfl, hasRef := h.hasRef, total := Nat.add_right_comm .., since := rfl, drift := h.drift,
      reference := rfl, refN := rfl, bins := rfl, eps := h.eps, totalEps := h.totalEps, lambda := h.lambda
      prev := fun _ => ⟨rfl, rfl⟩, curDist := fun _ => rfl
      featEps := fun h2 => absurd h2 (Nat.not_succ_le_self 1)
      beta := fun ht => by rw [testsDrift_eq_false (Nat.lt_succ_self 1)] at ht; cases ht
      featInfo := fun hd => by rw [hn] at hd; cases hd
      distances := hd1, epsValues := h.epsValues, thresholds := h.thresholds
      noWarn := h.noWarn, sinceLe := Nat.succ_le_succ (Nat.zero_le _) }

theorem updateCore_sameUpTo (c : Cfg α) (o : Oracle α) (off : Nat) (s t : State α) (dim : Nat)
    (X : List (List α)) (h : SameUpTo c off s t) (hn : t.drift = .none) :
    SameUpTo c off (updateCore c o s dim X) (updateCore c o t dim X) :=
  updateCore_rel c o o off s t dim X h hn fun _ => rfl

/-- validation and the body of `update` (what follows the optional `reset`) -/
def body (c : Cfg α) (o : Oracle α) (s : State α) (X : List (List α)) : Option (State α) :=
  match validBatch c s.dim X with
  | some d => some (updateCore c o s d X)
  | none => none

theorem update_eq_body (c : Cfg α) (o : Oracle α) (s : State α) (X : List (List α)) :
    update c o s X = if s.hasRef then (preState c o s).bind (fun s' => body c o s' X) else none := by
  rw [update_eq_bind]
  congr 2
  funext s'
  unfold body
  cases validBatch c s'.dim X <;> rfl

theorem body_sameUpTo (c : Cfg α) (o : Oracle α) (off : Nat) (s t : State α) (X : List (List α))
    (h : SameUpTo c off s t) (hn : t.drift = .none) :
    RelOpt (SameUpTo c off) (body c o s X) (body c o t X) := by
  unfold body
  rw [h.dim]
  cases validBatch c t.dim X with
  | none => exact True.intro
  | some d => exact updateCore_sameUpTo c o off s t d X h hn

/-- what `reset` needs of two states to make them `SameUpTo`: everything else is overwritten -/
structure Weak (off : Nat) (s t : State α) : Prop where
  dim : s.dim = t.dim
  hasRef : s.hasRef = t.hasRef
  total : s.total = t.total + off
  lambda : s.lambda = t.lambda + off
  reference : s.reference = t.reference
  distances : RecShift off s.distances t.distances
  epsValues : RecShift off s.epsValues t.epsValues
  thresholds : RecShift off s.thresholds t.thresholds

/-- at the start of an epoch (`batches_since_reset = 0`, no drift flagged) nothing stale is compared -/
theorem restart_sameUpTo (c : Cfg α) {off : Nat} {s t : State α} (h : Weak off s t) (ref : List (List α)) :
    SameUpTo c off (restart s ref) (restart t ref) where
  dim := h.dim
  hasRef := h.hasRef
  total := h.total
  lambda := h.lambda
  since := rfl
  drift := rfl
  reference := rfl
  refN := rfl
  bins := rfl
  eps := rfl
  totalEps := rfl
  prev h1 := absurd h1 (Nat.not_succ_le_zero 0)
  curDist h1 := absurd h1 (Nat.not_succ_le_zero 0)
  featEps h2 := absurd h2 (Nat.not_succ_le_zero 1)
  beta hb := absurd hb (Bool.eq_false_iff.1 (testsDrift_eq_false Nat.zero_lt_two))
  featInfo := nofun
  distances := h.distances
  epsValues := h.epsValues
  thresholds := h.thresholds
  noWarn := nofun
  sinceLe := Nat.zero_le _

/-- the two oracle arguments may differ: the proxy update of `detect_batch = 1` is the first of its
    epoch and reads neither -/
theorem reset_sameUpTo (c : Cfg α) (o o' : Oracle α) (off : Nat) (s t : State α) (h : Weak off s t) :
    RelOpt (SameUpTo c off) (reset c o s) (reset c o' t) := by
  rw [reset_eq, reset_eq, h.reference, h.dim]
  split
  · cases validBatch c t.dim (t.reference.drop (t.reference.length / 2)) with
    | none => exact True.intro
    | some d =>
      exact updateCore_rel c o o' off _ _ d _ (restart_sameUpTo c h _) rfl fun h0 =>
        absurd h0 (Nat.not_succ_le_zero 0)
  · exact restart_sameUpTo c h _

theorem setReference_sameUpTo (c : Cfg α) (o o' : Oracle α) (off : Nat) (s t : State α) (X : List (List α))
    (hdim : s.dim = t.dim) (htot : s.total = t.total + off)
    (hd : RecShift off s.distances t.distances) (he : RecShift off s.epsValues t.epsValues)
    (ht : RecShift off s.thresholds t.thresholds) :
    RelOpt (SameUpTo c off) (setReference c o s X) (setReference c o' t X) := by
  rw [setReference_eq, setReference_eq, hdim]
  cases validBatch c t.dim X with
  | none => exact True.intro
  | some d => exact reset_sameUpTo c o o' off _ _ ⟨rfl, rfl, htot, htot, rfl, hd, he, ht⟩

theorem preState_sameUpTo (c : Cfg α) (o : Oracle α) (off : Nat) (s t : State α) (h : SameUpTo c off s t) :
    RelOpt (SameUpTo c off) (preState c o s) (preState c o t) := by
  unfold preState
  rw [h.drift]
  split
  · exact reset_sameUpTo c o o off s t
      ⟨h.dim, h.hasRef, h.total, h.lambda, h.reference, h.distances, h.epsValues, h.thresholds⟩
  · exact h

theorem update_sameUpTo (c : Cfg α) (o : Oracle α) (off : Nat) (s t : State α) (X : List (List α))
    (h : SameUpTo c off s t) : RelOpt (SameUpTo c off) (update c o s X) (update c o t X) := by
  rw [update_eq_body, update_eq_body, h.hasRef]
  split
  · exact (preState_sameUpTo c o off s t h).bind fun x y _ hy hxy =>
      body_sameUpTo c o off x y X hxy (preState_drift_none h.noWarn hy)
  · exact True.intro

theorem step_sameUpTo (c : Cfg α) (off : Nat) (s t : State α) (op : Op α) (h : SameUpTo c off s t) :
    RelOpt (SameUpTo c off) (step c s op) (step c t op) := by
  cases op with
  | setRef X o => exact setReference_sameUpTo c o o off s t X h.dim h.total h.distances h.epsValues h.thresholds
  | batch X o => exact update_sameUpTo c o off s t X h

/-- What a detector shows after a call, as far as the current epoch determines it: drift state,
    `batches_since_reset`, reference / `reference_n` / bins, the ε list and its sum,
    `current_distance` (once the epoch has a batch), `feature_epsilons` (from the epoch's second
    batch), `beta` (once the test has run in the epoch), `feature_info` (when drift is flagged
    on more than one feature). -/
structure Report (α : Type) where
  drift : Drift
  since : Nat
  reference : List (List α)
  refN : Nat
  bins : Nat
  eps : List α
  totalEps : α
  dist : Option α
  featEps : Option (List α)
  beta : Option α
  featInfo : Option (FeatInfo α)

/-- more than one feature: only then is `feature_info` written -/
def multi (s : State α) : Bool := match s.dim with | some d => decide (1 < d) | none => false

def report (c : Cfg α) (s : State α) : Report α :=
  { drift := s.drift, since := s.since, reference := s.reference, refN := s.refN, bins := s.bins,
    eps := s.eps, totalEps := s.totalEps,
    dist := if 1 ≤ s.since then s.curDist else none,
    featEps := if 2 ≤ s.since then s.featEps else none,
    beta := if testsDrift c s.since then s.beta else none,
    featInfo := if s.drift = .drift ∧ multi s = true then s.featInfo else none }

theorem SameUpTo.report_eq {c : Cfg α} {off : Nat} {s t : State α} (h : SameUpTo c off s t) :
    report c s = report c t := by
  unfold report multi
  rw [h.drift, h.since, h.reference, h.refN, h.bins, h.eps, h.totalEps, h.dim]
  congr 1
  · exact ite_congr rfl h.curDist fun _ => rfl
  · exact ite_congr rfl h.featEps fun _ => rfl
  · exact ite_congr rfl h.beta fun _ => rfl
  · refine ite_congr rfl (fun ⟨hd, hm⟩ => ?_) fun _ => rfl
    cases hdim : t.dim with
    | none => rw [hdim] at hm; cases hm
    | some d => rw [hdim] at hm; exact h.featInfo hd d hdim (of_decide_eq_true hm)

/-- the reports after each accepted call of a history (the list ends where a call is rejected) -/
def outs (c : Cfg α) : State α → List (Op α) → List (Report α)
  | _, [] => []
  | s, op :: ops => match step c s op with
    | some s' => report c s' :: outs c s' ops
    | none => []

theorem run_sameUpTo (c : Cfg α) (off : Nat) (ops : List (Op α)) (s t : State α)
    (h : SameUpTo c off s t) :
    RelOpt (SameUpTo c off) (run c s ops) (run c t ops) ∧ outs c s ops = outs c t ops := by
  induction ops generalizing s t with
  | nil => exact ⟨h, rfl⟩
  | cons op ops ih =>
    simp only [run, outs]
    obtain ⟨h1, h2⟩ | ⟨s', t', h1, h2, hs'⟩ := (step_sameUpTo c off s t op h).cases <;>
      simp only [h1, h2]
    · exact ⟨True.intro, trivial⟩
    · exact ⟨(ih s' t' hs').1, by rw [hs'.report_eq, (ih s' t' hs').2]⟩

theorem outs_append (c : Cfg α) (s : State α) (ops ops' : List (Op α)) :
    outs c s (ops ++ ops') = outs c s ops ++
      (match run c s ops with | some s' => outs c s' ops' | none => []) := by
  induction ops generalizing s with
  | nil => rfl
  | cons op ops ih =>
    simp only [List.cons_append, run, outs]
    cases step c s op with
    | none => rfl
    | some s' => simp only [List.cons_append, ih s']

/-- what `_validate_X` asks of a batch of width `w` -/
def ValidRows (c : Cfg α) (w : Nat) (X : List (List α)) : Prop :=
  2 ≤ X.length ∧ (∀ r ∈ X, r.length = w) ∧ (c.univariate = true → w = 1)

theorem ValidRows.of_validBatch {c : Cfg α} {dim : Option Nat} {X : List (List α)} {w : Nat}
    (h : validBatch c dim X = some w) : ValidRows c w X :=
  ((validBatch_eq_some_iff ..).1 h).2

theorem ValidRows.append {c : Cfg α} {w : Nat} {A B : List (List α)} (ha : ValidRows c w A)
    (hb : ValidRows c w B) : ValidRows c w (A ++ B) := by
  refine ⟨by rw [List.length_append]; exact Nat.le_trans ha.1 (Nat.le_add_right ..), ?_, ha.2.2⟩
  intro r hr
  rcases List.mem_append.1 hr with h | h
  · exact ha.2.1 r h
  · exact hb.2.1 r h

/-- the reference is a valid batch of the established width (`reset` with `detect_batch = 1`
    validates its second half against that width) -/
def WellRef (c : Cfg α) (s : State α) : Prop := ∃ d, s.dim = some d ∧ ValidRows c d s.reference

theorem updateCore_grows (c : Cfg α) (o : Oracle α) (s : State α) (dim : Nat) (X : List (List α)) :
    Grows s (updateCore c o s dim X) := by
  rw [updateCore_eq]
  exact ⟨Nat.le_succ _, .snoc _ _, (RecGrow.snoc _ _).ite, (RecGrow.snoc _ _).ite⟩

theorem reset_grows (c : Cfg α) (o : Oracle α) (s s' : State α) (hr : reset c o s = some s') :
    Grows s s' := by
  rw [reset_eq] at hr
  split at hr
  · obtain ⟨d, -, rfl⟩ := Option.map_eq_some_iff.1 hr
    -- `restart` leaves the count and the records alone
    have g := updateCore_grows c o (restart s (s.reference.take (s.reference.length / 2))) d
      (s.reference.drop (s.reference.length / 2))
    exact ⟨g.total, g.distances, g.epsValues, g.thresholds⟩
  · cases hr
    exact ⟨Nat.le_refl _, .refl _, .refl _, .refl _⟩

theorem step_grows (c : Cfg α) (s s' : State α) (op : Op α) (hr : step c s op = some s') : Grows s s' := by
  cases op with
  | setRef X o =>
    obtain ⟨d, -, hr⟩ := setReference_eq_some hr
    have g := reset_grows c o _ s' hr
    exact ⟨g.total, g.distances, g.epsValues, g.thresholds⟩
  | batch X o =>
    obtain ⟨-, s0, d, hp, -, rfl⟩ := update_eq_some hr
    refine Grows.trans ?_ (updateCore_grows c o s0 d X)
    rcases preState_cases hp with ⟨-, hp⟩ | ⟨-, rfl⟩
    · exact reset_grows c o s s0 hp
    · exact .refl s0

theorem run_grows (c : Cfg α) (ops : List (Op α)) (s s' : State α) (hr : run c s ops = some s') :
    Grows s s' :=
  run_induction (Grows s) (fun _ s2 op h hs => h.trans (step_grows c _ s2 op hs)) ops s s' (.refl s) hr

theorem run_keysLe (c : Cfg α) (ops : List (Op α)) (s s' : State α) (h : KeysLe s)
    (hr : run c s ops = some s') : KeysLe s' :=
  (run_grows c ops s s' hr).keysLe h

/-- a history only appends to the public records, under keys beyond the batch count it started from
    (`run_grows` without the upper bounds) -/
theorem run_extends (c : Cfg α) (ops : List (Op α)) (s s' : State α) (hr : run c s ops = some s') :
    Extends s s' :=
  (run_grows c ops s s' hr).extends

theorem reset_reference (c : Cfg α) (o : Oracle α) (s s' : State α) (hr : reset c o s = some s') :
    s'.reference = s.reference :=
  (reset_spec hr).reference

theorem reset_wellRef (c : Cfg α) (o : Oracle α) (s s' : State α) (h : WellRef c s)
    (hr : reset c o s = some s') : WellRef c s' := by
  obtain ⟨d, hd, hrows⟩ := h
  exact ⟨d, reset_dim hd hr, (reset_reference c o s s' hr).symm ▸ hrows⟩

/-- what the history forms use of a reachable state (`Inv`: the lifecycle invariant, Lemmas/HDMStep) -/
structure Good (c : Cfg α) (s : State α) : Prop where
  inv : Inv s
  keys : KeysLe s
  wellRef : s.hasRef = true → WellRef c s

theorem good_init (c : Cfg α) : Good c (init : State α) :=
  ⟨inv_init, ⟨nofun, nofun, nofun⟩, nofun⟩

theorem step_good (c : Cfg α) (s s' : State α) (op : Op α) (h : Good c s) (hr : step c s op = some s') :
    Good c s' := by
  refine ⟨step_inv c s s' op h.inv hr, (step_grows c s s' op hr).keysLe h.keys, fun _ => ?_⟩
  cases op with
  | setRef X o =>
    obtain ⟨d, hv, hr⟩ := setReference_eq_some hr
    exact reset_wellRef c o _ s' ⟨d, rfl, .of_validBatch hv⟩ hr
  | batch X o =>
    obtain ⟨s0, d, hp, hv, rfl, -, -, hr0, -⟩ := update_eq_some_of_inv h.inv hr
    -- the body runs on a well-formed reference: the one found, or what the pending `reset` leaves
    obtain ⟨d0, hd0, hrows⟩ : WellRef c s0 := by
      rcases preState_cases hp with ⟨hd, hp⟩ | ⟨-, rfl⟩
      · exact reset_wellRef c o s s0 (h.wellRef (h.inv.drifted hd).2.2) hp
      · exact h.wellRef hr0
    obtain ⟨hd, hX⟩ := (validBatch_eq_some_iff ..).1 hv
    cases hd d0 hd0
    -- the accepted batch replaces the reference or is appended to it
    refine ⟨d, updateCore_dim c o s0 d X, ?_⟩
    rw [updateCore_eq]
    show ValidRows c d (if _ then X else s0.reference ++ X)
    split
    · exact hX
    · exact hrows.append hX

theorem run_good (c : Cfg α) (ops : List (Op α)) (s s' : State α) (h : Good c s)
    (hr : run c s ops = some s') : Good c s' :=
  run_induction (Good c) (step_good c) ops s s' h hr

/-- a newly constructed detector on which `set_reference(B)` was called (`none`: the call is rejected) -/
def fresh (c : Cfg α) (o' : Oracle α) (B : List (List α)) : Option (State α) := setReference c o' init B

/-- the twin's run: `fresh`, then the continuation (`none` also when `set_reference(B)` is rejected) -/
def runFresh (c : Cfg α) (o' : Oracle α) (B : List (List α)) (ops : List (Op α)) : Option (State α) :=
  (fresh c o' B).bind (fun t => run c t ops)

def outsFresh (c : Cfg α) (o' : Oracle α) (B : List (List α)) (ops : List (Op α)) : List (Report α) :=
  match fresh c o' B with
  | some t => outs c t ops
  | none => []

/-- the twin is an ordinary history of a new detector -/
theorem runFresh_eq_run (c : Cfg α) (o' : Oracle α) (B : List (List α)) (ops : List (Op α)) :
    runFresh c o' B ops = run c init (.setRef B o' :: ops) :=
  (run_cons c init (.setRef B o') ops).symm

theorem outsFresh_eq_outs (c : Cfg α) (o' : Oracle α) (B : List (List α)) (ops : List (Op α)) :
    outsFresh c o' B ops = (outs c init (.setRef B o' :: ops)).tail := by
  unfold outsFresh fresh
  simp only [outs, step]
  cases setReference c o' init B <;> rfl

/-- the new detector inside `set_reference(B)`, just before its `reset()` -/
def freshPre (d : Nat) (B : List (List α)) : State α :=
  { (init : State α) with dim := some d, hasRef := true, reference := B, lambda := (init : State α).total }

theorem fresh_eq (c : Cfg α) (o' : Oracle α) (B : List (List α)) (d : Nat) (h : ValidRows c d B) :
    fresh c o' B = reset c o' (freshPre d B) := by
  have hv : validBatch c (init : State α).dim B = some d := (validBatch_eq_some_iff ..).2 ⟨nofun, h⟩
  rw [fresh, setReference_eq, hv]
  rfl

/-- a state in which a drift has just been reported, as every history leaves it (`Good.pending`) -/
structure Pending (c : Cfg α) (s : State α) : Prop where
  drift : s.drift = .drift
  hasRef : s.hasRef = true
  lambda : s.lambda = s.total
  keys : KeysLe s
  wellRef : WellRef c s

theorem Good.pending {c : Cfg α} {s : State α} (h : Good c s) (hd : s.drift = .drift) : Pending c s :=
  ⟨hd, (h.inv.drifted hd).2.2, (h.inv.drifted hd).1, h.keys, h.wellRef (h.inv.drifted hd).2.2⟩

theorem weak_freshPre (s : State α) (hk : KeysLe s) (d : Nat) (B : List (List α)) (hd : s.dim = some d)
    (hr : s.hasRef = true) (hl : s.lambda = s.total) (hB : s.reference = B) :
    Weak s.total s (freshPre d B) where
  dim := hd
  hasRef := hr
  total := (Nat.zero_add _).symm
  lambda := hl.trans (Nat.zero_add _).symm
  reference := hB
  distances := .nil hk.1
  epsValues := .nil hk.2.1
  thresholds := .nil hk.2.2

/-- the `reset` that opens the `update` following a drift puts the running detector into the state
    of a new detector with `set_reference(drifted batch)`, up to the batch count -/
theorem reset_fresh (c : Cfg α) (o o' : Oracle α) (s : State α) (hp : Pending c s) :
    RelOpt (SameUpTo c s.total) (reset c o s) (fresh c o' s.reference) := by
  obtain ⟨d, hd, hrows⟩ := hp.wellRef
  rw [fresh_eq c o' _ d hrows]
  exact reset_sameUpTo c o o' _ _ _ (weak_freshPre s hp.keys d _ hd hp.hasRef hp.lambda rfl)

/-- **`first_after_drift`** (every `detect_batch`): the update following a drift establishes the
    relation with `fresh.set_reference(drifted batch)` followed by that update; offset = the batch
    count at the drift.  With `detect_batch = 1` both sides split the drifted batch by position
    (first half reference, second half proxy batch, counted), see `fresh_detect1`. -/
theorem first_after_drift (c : Cfg α) (o o' : Oracle α) (s : State α) (X : List (List α))
    (hp : Pending c s) :
    RelOpt (SameUpTo c s.total) (update c o s X)
      ((fresh c o' s.reference).bind (fun t => update c o t X)) := by
  rw [update_eq_body, hp.hasRef, if_pos rfl, preState_of_drift hp.drift]
  refine (reset_fresh c o o' s hp).bind fun x y hx _ hxy => ?_
  have hyd : y.drift = .none := hxy.drift ▸ (reset_spec hx).drift
  have hyr : y.hasRef = true := by rw [← hxy.hasRef, (reset_spec hx).hasRef]; exact hp.hasRef
  rw [update_eq_body, hyr, if_pos rfl, preState_of_not_drift (by rw [hyd]; nofun), Option.bind_some]
  exact body_sameUpTo c o _ x y X hxy hyd

/-- **HDM twin theorem** (state form).  `s`: any state in which a drift has just been reported; its
    reference is the drifted batch.  For every next batch and every further continuation (updates
    and `set_reference` calls, any number of further drifts), with the same oracle inputs per call:
    the running detector accepts exactly the calls the twin accepts, after each it reports the
    same, and the states are `SameUpTo` with offset `s.total`. -/
theorem twin (c : Cfg α) (o' : Oracle α) (s : State α) (hp : Pending c s) (X : List (List α))
    (o : Oracle α) (ops : List (Op α)) :
    RelOpt (SameUpTo c s.total) (run c s (.batch X o :: ops)) (runFresh c o' s.reference (.batch X o :: ops)) ∧
    outs c s (.batch X o :: ops) = outsFresh c o' s.reference (.batch X o :: ops) := by
  have hf := first_after_drift c o o' s X hp
  unfold runFresh outsFresh
  simp only [run, outs, step]
  cases hfr : fresh c o' s.reference with
  | none =>
    rw [hfr] at hf
    obtain ⟨h1, -⟩ | ⟨_, _, _, h2, _⟩ := hf.cases
    · rw [h1]; exact ⟨True.intro, rfl⟩
    · cases h2
  | some t =>
    rw [hfr, Option.bind_some] at hf
    simp only [Option.bind_some]
    obtain ⟨h1, h2⟩ | ⟨s1, t1, h1, h2, hR⟩ := hf.cases <;> simp only [h1, h2]
    · exact ⟨True.intro, trivial⟩
    · obtain ⟨r1, r2⟩ := run_sameUpTo c s.total ops s1 t1 hR
      exact ⟨r1, by rw [hR.report_eq, r2]⟩

/-- a reported drift makes the batch just seen the reference -/
theorem drift_reference (c : Cfg α) (o : Oracle α) (s s' : State α) (X : List (List α)) (hg : Good c s)
    (h : update c o s X = some s') (hd : s'.drift = .drift) : s'.reference = X :=
  ((update_reference c o s s' X hg.inv h).2 hd).1

/-- **HDM twin theorem** (history form): every start `s0` satisfying the reachability invariant
    (`good_init`: a newly constructed detector does), every history `ops` followed by an update on
    `X` that reports drift, every continuation that starts with an update: from there on the
    running detector accepts / rejects, reports and records what a new detector with
    `set_reference(X)` does on the continuation alone. -/
theorem twin_history (c : Cfg α) (o' : Oracle α) (s0 s1 : State α) (hg : Good c s0) (ops : List (Op α))
    (X : List (List α)) (o : Oracle α) (h : run c s0 (ops ++ [.batch X o]) = some s1)
    (hd : s1.drift = .drift) (Y : List (List α)) (oy : Oracle α) (ops' : List (Op α)) :
    RelOpt (SameUpTo c s1.total) (run c s0 (ops ++ [.batch X o] ++ .batch Y oy :: ops'))
      (runFresh c o' X (.batch Y oy :: ops')) ∧
    outs c s0 (ops ++ [.batch X o] ++ .batch Y oy :: ops') =
      outs c s0 (ops ++ [.batch X o]) ++ outsFresh c o' X (.batch Y oy :: ops') := by
  obtain ⟨s', hs', hst⟩ := run_snoc h
  have href : s1.reference = X := drift_reference c o s' s1 X (run_good c ops s0 s' hg hs') hst hd
  have hp := (run_good c _ s0 s1 hg h).pending hd
  obtain ⟨t1, t2⟩ := twin c o' s1 hp Y oy ops'
  rw [href] at t1 t2
  refine ⟨?_, ?_⟩
  · rw [run_append, h]; exact t1
  · rw [outs_append, h]; simp only [t2]

/-- **Second drift** (re-apply for later ones).  When the continuation `k ++ [X']` ends in a drift again, the twin
    reports it at the same place, and from then on the running detector and the first twin both
    equal the new detector with `set_reference(X')` — the twin being an ordinary history. -/
theorem twin_epochs (c : Cfg α) (o' o'' : Oracle α) (s0 s1 s2 : State α) (hg : Good c s0)
    (ops : List (Op α)) (X : List (List α)) (o : Oracle α)
    (h1 : run c s0 (ops ++ [.batch X o]) = some s1) (hd1 : s1.drift = .drift)
    (k : List (Op α)) (X' : List (List α)) (ox : Oracle α)
    (hk : ∃ Y oy r, k ++ [.batch X' ox] = .batch Y oy :: r)
    (h2 : run c s0 (ops ++ [.batch X o] ++ (k ++ [.batch X' ox])) = some s2) (hd2 : s2.drift = .drift)
    (Z : List (List α)) (oz : Oracle α) (ops2 : List (Op α)) :
    ∃ t2, runFresh c o' X (k ++ [.batch X' ox]) = some t2 ∧ t2.drift = .drift ∧
      s2.total = t2.total + s1.total ∧
      RelOpt (SameUpTo c s2.total)
        (run c s0 (ops ++ [.batch X o] ++ k ++ [.batch X' ox] ++ .batch Z oz :: ops2))
        (runFresh c o'' X' (.batch Z oz :: ops2)) ∧
      RelOpt (SameUpTo c t2.total) (runFresh c o' X (k ++ [.batch X' ox] ++ .batch Z oz :: ops2))
        (runFresh c o'' X' (.batch Z oz :: ops2)) := by
  obtain ⟨Y, oy, r, hr⟩ := hk
  have t := (twin_history c o' s0 s1 hg ops X o h1 hd1 Y oy r).1
  rw [← hr, h2] at t
  cases hf : runFresh c o' X (k ++ [.batch X' ox]) with
  | none => rw [hf] at t; exact t.elim
  | some t2 =>
    rw [hf] at t
    have t' : SameUpTo c s1.total s2 t2 := t
    have hdt : t2.drift = .drift := by rw [← t'.drift]; exact hd2
    refine ⟨t2, rfl, hdt, t'.total, ?_, ?_⟩
    · rw [← List.append_assoc] at h2
      exact (twin_history c o'' s0 s2 hg _ X' ox h2 hd2 Z oz ops2).1
    · rw [runFresh_eq_run] at hf ⊢
      exact (twin_history c o'' init t2 (good_init c) (.setRef X o' :: k) X' ox hf hdt Z oz ops2).1

/-- `set_reference` at any time puts the detector into the state of a new detector with the same
    `set_reference`, up to the batch count (and the older records) -/
theorem setReference_fresh (c : Cfg α) (o o' : Oracle α) (s s' : State α) (hk : KeysLe s)
    (B : List (List α)) (h : setReference c o s B = some s') :
    ∃ t, fresh c o' B = some t ∧ SameUpTo c s.total s' t := by
  obtain ⟨d, hv, h⟩ := setReference_eq_some h
  have := reset_sameUpTo c o o' s.total _ _ (weak_freshPre
    { s with dim := some d, hasRef := true, reference := B, lambda := s.total } hk d B rfl rfl rfl rfl)
  rw [h, ← fresh_eq c o' B d (.of_validBatch hv)] at this
  obtain ⟨h0, -⟩ | ⟨_, t, hs, ht, hR⟩ := this.cases
  · cases h0
  · cases hs; exact ⟨t, ht, hR⟩

/-- **`set_reference` twin theorem.**  At any time (any state whose record keys are batch indices
    seen so far — every reachable state, `run_keysLe`; a drift may be pending or not), an accepted
    `set_reference(B)` is equivalent to starting a new detector on `B`: the new detector accepts
    `B` as well, reports the same right away, and for every continuation with the same oracle
    inputs both accept / reject the same calls, report the same after each, and stay `SameUpTo`
    with offset = the batch count at the call.  (A `set_reference` the running detector rejects
    — wrong width for the established `_input_col_dim` — has no counterpart.) -/
theorem setReference_twin (c : Cfg α) (o o' : Oracle α) (s s' : State α) (hk : KeysLe s)
    (B : List (List α)) (h : setReference c o s B = some s') (ops : List (Op α)) :
    (∃ t, fresh c o' B = some t ∧ report c s' = report c t) ∧
    RelOpt (SameUpTo c s.total) (run c s' ops) (runFresh c o' B ops) ∧
    outs c s' ops = outsFresh c o' B ops := by
  obtain ⟨t, ht, hR⟩ := setReference_fresh c o o' s s' hk B h
  obtain ⟨r1, r2⟩ := run_sameUpTo c s.total ops s' t hR
  refine ⟨⟨t, ht, hR.report_eq⟩, ?_, ?_⟩
  · unfold runFresh; rw [ht]; exact r1
  · unfold outsFresh; rw [ht]; exact r2

theorem setReference_twin_history (c : Cfg α) (o o' : Oracle α) (s0 s : State α) (hk : KeysLe s0)
    (ops : List (Op α)) (h0 : run c s0 ops = some s) (B : List (List α)) (ops' : List (Op α))
    (hacc : (setReference c o s B).isSome = true) :
    RelOpt (SameUpTo c s.total) (run c s0 (ops ++ .setRef B o :: ops')) (runFresh c o' B ops') ∧
    outs c s0 (ops ++ .setRef B o :: ops') = outs c s0 (ops ++ [.setRef B o]) ++ outsFresh c o' B ops' := by
  obtain ⟨s', hs'⟩ := Option.isSome_iff_exists.1 hacc
  obtain ⟨_, r1, r2⟩ := setReference_twin c o o' s s' (run_keysLe c ops s0 s hk h0) B hs' ops'
  have e : ops ++ Op.setRef B o :: ops' = (ops ++ [.setRef B o]) ++ ops' := List.append_cons ..
  have hrun : run c s0 (ops ++ [.setRef B o]) = some s' := by
    rw [run_append, h0, Option.bind_some, run_cons, step, hs']
    rfl
  refine ⟨?_, ?_⟩
  · rw [e, run_append, hrun]; exact r1
  · rw [e, outs_append, hrun]; simp only [r2]

/-- **No statistic accumulated before the drift matters**: two detectors in which a drift has just
    been reported on the same batch — whatever their histories, ε lists, sums, `_lambda`, previous
    distances, bins, thresholds — report the same on every common continuation. -/
theorem pending_history_independent (c : Cfg α) (s s' : State α) (hp : Pending c s) (hp' : Pending c s')
    (href : s.reference = s'.reference) (X : List (List α)) (o : Oracle α) (ops : List (Op α)) :
    outs c s (.batch X o :: ops) = outs c s' (.batch X o :: ops) ∧
    ((run c s (.batch X o :: ops)).isSome = (run c s' (.batch X o :: ops)).isSome) := by
  obtain ⟨a1, a2⟩ := twin c o s hp X o ops
  obtain ⟨b1, b2⟩ := twin c o s' hp' X o ops
  rw [href] at a1 a2
  exact ⟨by rw [a2, b2], a1.isSome_eq.trans b1.isSome_eq.symm⟩

/-- counters of the update that follows a drift: with `detect_batch = 1` the proxy batch is counted,
    `batches_since_reset` restarts at 2, otherwise at 1 -/
theorem first_after_drift_counters (c : Cfg α) (o : Oracle α) (s s' : State α) (X : List (List α))
    (hd : s.drift = .drift) (h : update c o s X = some s') :
    s'.since = (if c.detectBatch = 1 then 2 else 1) ∧
    s'.total = s.total + (if c.detectBatch = 1 then 2 else 1) := by
  obtain ⟨ht, hs⟩ := update_total_since h
  rw [hs, ht, if_pos hd]
  by_cases h1 : c.detectBatch = 1 <;> simp [hd, h1]

/-- counters of the twin before that update: the new detector has counted the proxy batch as well -/
theorem fresh_counters (c : Cfg α) (o' : Oracle α) (B : List (List α)) (t : State α)
    (h : fresh c o' B = some t) :
    t.since = (if c.detectBatch = 1 then 1 else 0) ∧ t.total = (if c.detectBatch = 1 then 1 else 0) ∧
    t.lambda = 0 ∧ t.reference = B ∧ t.drift = .none := by
  obtain ⟨href, -, -, hd, -, -, hl, hs, ht, -⟩ := setReference_spec c o' init t B h
  exact ⟨hs, ht.trans (Nat.zero_add _), hl, href, hd⟩

/-- the carry-over with `detect_batch = 1`, exactly as the model does it: the new detector takes
    the first `⌊n/2⌋` rows of the drifted batch as reference and pushes the remaining rows through
    `update` as a proxy batch (rejected when those are fewer than two rows) -/
theorem fresh_detect1 (c : Cfg α) (o' : Oracle α) (B : List (List α)) (d : Nat) (h1 : c.detectBatch = 1)
    (hB : ValidRows c d B) :
    fresh c o' B =
      match validBatch c (some d) (B.drop (B.length / 2)) with
      | some d' => some (updateCore c o'
          { freshPre d B with since := 0, drift := .none, reference := B.take (B.length / 2),
                              refN := (B.take (B.length / 2)).length,
                              bins := Nat.sqrt (B.take (B.length / 2)).length, eps := [], totalEps := zero }
          d' (B.drop (B.length / 2)))
      | none => none := by
  rw [fresh_eq c o' B d hB, reset_eq, if_pos h1]
  show (validBatch c (some d) (B.drop (B.length / 2))).map _ = _
  cases validBatch c (some d) (B.drop (B.length / 2)) <;> rfl

/-- the carry-over with `detect_batch ≠ 1`: the drifted batch as it is -/
theorem fresh_detect23 (c : Cfg α) (o' : Oracle α) (B : List (List α)) (d : Nat) (h1 : c.detectBatch ≠ 1)
    (hB : ValidRows c d B) :
    fresh c o' B = some { freshPre d B with since := 0, drift := .none, refN := B.length,
                                            bins := Nat.sqrt B.length, eps := [], totalEps := zero } := by
  rw [fresh_eq c o' B d hB, reset_eq, if_neg h1]
  rfl

/-- what the real code computes the two oracle inputs from, at the moment it does so (after the
    optional `reset`, before the reference is extended): the bootstrap ε₀ from the reference, its
    size, the bins, the width, the batch's range and the global RNG; the `t` critical value from
    `reference_n + test_n - 2` and the significance -/
def oracleView (s : State α) : Option Nat × List (List α) × Nat × Nat := (s.dim, s.reference, s.refN, s.bins)

/-- related states present the same data to the oracles — so feeding both sides the same oracle
    values (under the same RNG state) is what the real code does -/
theorem SameUpTo.oracleView_eq {c : Cfg α} {off : Nat} {s t : State α} (h : SameUpTo c off s t) :
    oracleView s = oracleView t := by
  unfold oracleView; rw [h.dim, h.reference, h.refN, h.bins]

/-- **same records for the batch just processed**: after an update on related states the entries
    written for this batch (key = the respective batch count) are the same on both sides, in each of
    `distances`, `epsilon_values`, `thresholds` -/
theorem SameUpTo.records_now {c : Cfg α} {off : Nat} {s t : State α} (h : SameUpTo c off s t)
    (ht : 0 < t.total) (x : α) :
    ((s.total, x) ∈ s.distances ↔ (t.total, x) ∈ t.distances) ∧
    ((s.total, x) ∈ s.epsValues ↔ (t.total, x) ∈ t.epsValues) ∧
    ((s.total, x) ∈ s.thresholds ↔ (t.total, x) ∈ t.thresholds) := by
  rw [h.total]
  exact ⟨h.distances.mem_iff _ x ht, h.epsValues.mem_iff _ x ht, h.thresholds.mem_iff _ x ht⟩

theorem records_split (c : Cfg α) (s s' t' : State α) (hk : KeysLe s) (hE : Grows s s')
    (hR : SameUpTo c s.total s' t') :
    s'.distances = s.distances ++ shiftKeys s.total t'.distances ∧
    s'.epsValues = s.epsValues ++ shiftKeys s.total t'.epsValues ∧
    s'.thresholds = s.thresholds ++ shiftKeys s.total t'.thresholds :=
  ⟨hE.distances.split hk.1 hR.distances, hE.epsValues.split hk.2.1 hR.epsValues,
   hE.thresholds.split hk.2.2 hR.thresholds⟩

/-- **the public dicts after a drift**: whatever follows, the running detector's `distances`,
    `epsilon_values`, `thresholds` are the entries they held when the drift was reported, followed
    by exactly the twin's entries with keys shifted by the batch count at the drift -/
theorem twin_records (c : Cfg α) (o' : Oracle α) (s : State α) (hp : Pending c s) (X : List (List α))
    (o : Oracle α) (ops : List (Op α)) (s' t' : State α)
    (hs : run c s (.batch X o :: ops) = some s')
    (ht : runFresh c o' s.reference (.batch X o :: ops) = some t') :
    s'.distances = s.distances ++ shiftKeys s.total t'.distances ∧
    s'.epsValues = s.epsValues ++ shiftKeys s.total t'.epsValues ∧
    s'.thresholds = s.thresholds ++ shiftKeys s.total t'.thresholds := by
  have hR := (twin c o' s hp X o ops).1
  rw [hs, ht] at hR
  exact records_split c s s' t' hp.keys (run_grows c _ s s' hs) hR

/-- … and after a `set_reference`: the old entries, then the new detector's, keys shifted by the
    batch count at the call -/
theorem setReference_records (c : Cfg α) (o o' : Oracle α) (s s1 : State α) (hk : KeysLe s)
    (B : List (List α)) (h : setReference c o s B = some s1) (ops : List (Op α)) (s' t' : State α)
    (hs : run c s1 ops = some s') (ht : runFresh c o' B ops = some t') :
    s'.distances = s.distances ++ shiftKeys s.total t'.distances ∧
    s'.epsValues = s.epsValues ++ shiftKeys s.total t'.epsValues ∧
    s'.thresholds = s.thresholds ++ shiftKeys s.total t'.thresholds := by
  have hR := (setReference_twin c o o' s s1 hk B h ops).2.1
  rw [hs, ht] at hR
  exact records_split c s s' t' hk ((step_grows c s s1 (.setRef B o) h).trans (run_grows c _ s1 s' hs)) hR

end anyCarrier

/- non-vacuity: concrete detectors that reach the hypotheses (toy carrier `Int`, as in C07) -/
namespace DemoTwin
local instance : HasSqrt Int := ⟨id⟩
local instance : HasLogExp Int := ⟨id, id⟩
local instance : HasLog1p Int := ⟨id⟩
local instance : HasTrunc Int := ⟨Int.toNat⟩

/-- user divergence: the number of batch rows in the first bin; `stdev` statistic with 0 deviations -/
def cfg (db : Nat) : Cfg Int :=
  { div := .user (fun _ t => ((t.headD 0 : Nat) : Int)), detectBatch := db, stat := .stdev, signif := 0 }
def o : Oracle Int := { eps0 := 0, tcrit := 0 }
def A : List (List Int) := [[0], [4]]
def A4 : List (List Int) := [[0], [4], [0], [4]]
def D : List (List Int) := [[0], [0], [0], [0], [4]]
def E : List (List Int) := [[4], [4], [4], [0], [4]]
def Z : List (List Int) := [[4], [4]]

theorem exists_drift {r : Option (State Int)} (h : r.map (·.drift) = some .drift) :
    ∃ s1, r = some s1 ∧ s1.drift = .drift :=
  Option.map_eq_some_iff.1 h

/-- `detect_batch = 3`: hypotheses of `twin_history` (history ending in a drift on `D`) … -/
example : ∃ s1, run (cfg 3) init ([.setRef A o, .batch A o, .batch A o] ++ [.batch D o]) = some s1 ∧
    s1.drift = .drift := exists_drift (by decide +kernel)
/-- … and of `twin_epochs` (continuation `D, D, E` accepted and ending in a second drift) -/
example : ∃ s2, run (cfg 3) init ([.setRef A o, .batch A o, .batch A o] ++ [.batch D o] ++
    ([.batch D o, .batch D o] ++ [.batch E o])) = some s2 ∧ s2.drift = .drift :=
  exists_drift (by decide +kernel)

/-- `detect_batch = 2`: drift on the second batch, and again on the second batch of the next epoch -/
example : ∃ s1, run (cfg 2) init ([.setRef A o, .batch A o] ++ [.batch D o]) = some s1 ∧
    s1.drift = .drift := exists_drift (by decide +kernel)
example : ∃ s2, run (cfg 2) init ([.setRef A o, .batch A o] ++ [.batch D o] ++
    ([.batch D o] ++ [.batch E o])) = some s2 ∧ s2.drift = .drift := exists_drift (by decide +kernel)

/-- `detect_batch = 1`: drift on the first batch; the update that follows (proxy batch + `E`,
    `batches_since_reset = 2`) reports drift again at once (`k = []` in `twin_epochs`), and so does
    the next one -/
example : ∃ s1, run (cfg 1) init ([.setRef A4 o] ++ [.batch D o]) = some s1 ∧ s1.drift = .drift :=
  exists_drift (by decide +kernel)
example : ∃ s2, run (cfg 1) init ([.setRef A4 o] ++ [.batch D o] ++ ([] ++ [.batch E o])) = some s2 ∧
    s2.drift = .drift ∧ s2.since = 2 ∧ s2.total = 4 := by
  have h : (run (cfg 1) init ([.setRef A4 o] ++ [.batch D o] ++ ([] ++ [.batch E o]))).map
      (fun s => (s.drift, s.since, s.total)) = some (.drift, 2, 4) := by decide +kernel
  obtain ⟨s2, h, he⟩ := Option.map_eq_some_iff.1 h
  exact ⟨s2, h, congrArg (·.1) he, congrArg (·.2.1) he, congrArg (·.2.2) he⟩
example : ∃ s3, run (cfg 1) init ([.setRef A4 o, .batch D o, .batch E o] ++ [.batch A o]) = some s3 ∧
    s3.drift = .drift := exists_drift (by decide +kernel)

/-- a state with a pending drift as the state form `twin` wants it -/
example : ∃ s, Pending (cfg 1) s := by
  obtain ⟨s1, h, hd⟩ := exists_drift (r := run (cfg 1) init ([.setRef A4 o] ++ [.batch D o])) (by decide +kernel)
  exact ⟨s1, (run_good _ _ _ _ (good_init _) h).pending hd⟩

/-- `setReference_twin_history`: an accepted `set_reference` in the middle of a history (here while a
    drift is pending), continuation accepted -/
example : (run (cfg 1) init ([.setRef A4 o, .batch D o] ++ .setRef A4 o :: [.batch D o])).isSome = true := by
  decide +kernel

/-- the "both rejected" side of `RelOpt` is inhabited: with `detect_batch = 1` a drift on the two-row
    batch `Z` leaves a reference that cannot be split — the next `update` is rejected, and so is
    `set_reference(Z)` on a new detector (finding F20) -/
example : (run (cfg 1) init [.setRef A4 o, .batch Z o]).map (·.drift) = some .drift ∧
    (run (cfg 1) init [.setRef A4 o, .batch Z o, .batch A o]).isNone = true ∧
    (fresh (cfg 1) o Z).isNone = true := by
  decide +kernel

end DemoTwin

end MV.HDM
