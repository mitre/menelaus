/-
  C13 — each election returns exactly what its voting rule says, for every vote
  pattern (all n, all parameters).

  The three stateless elections answer `drift` or `none`, and which of the two depends only on how
  many members vote drift: `simpleMajority` by definition, the two early-return loops by
  `minApproval_eq` / `ordered_eq`, which say what the loop returns for every parameter (a loop
  looks at a vote before it answers: hence the degenerate parameters `a = 0`, `a = c = 0`).
  ConfirmedElection: the counter arithmetic refines a per-member automaton `Mem` (idle, or still voting
  for `r` more calls).  `election.py` documents only "wait for a certain number of samples"; the
  automaton is this development's specification of it (DESIGN §7 C13), in particular that a member
  reporting `warning` is counted as a warning and its waiting time stands still.
-/
import MenelausVerif.Model.Election
namespace MV.Election
open MV

theorem ite_drift_iff {p : Prop} [Decidable p] : (if p then Drift.drift else Drift.none) = .drift ↔ p := by
  split <;> simp [*]

theorem ite_drift_range {p : Prop} [Decidable p] :
    (if p then Drift.drift else Drift.none) = .drift ∨ (if p then Drift.drift else Drift.none) = .none := by
  split <;> simp

/-- the early-return loop, whatever the count `n` it starts from: it looks at a vote before it
    answers, and then answers as soon as the count has reached `a` -/
theorem minApprovalLoop_eq (a n : Nat) (vs : List Drift) :
    minApprovalLoop a n vs = if 1 ≤ vs.length ∧ a ≤ n + vs.count .drift then .drift else .none := by
  induction vs generalizing n with
  | nil => rfl
  | cons d ds ih =>
    have hk : n + (d :: ds).count .drift = (if d = .drift then n + 1 else n) + ds.count .drift := by
      by_cases hd : d = .drift
      · rw [hd, List.count_cons_self, if_pos rfl]; omega
      · rw [List.count_cons_of_ne hd, if_neg hd]
    rw [minApprovalLoop, hk]
    generalize (if d = .drift then n + 1 else n) = k
    by_cases h : a ≤ k
    · exact (if_pos h).trans (if_pos ⟨Nat.succ_pos _, Nat.le_add_right_of_le h⟩).symm
    · -- below the threshold one more drift vote is needed, so there is one more vote
      have := List.count_le_length (a := Drift.drift) (l := ds)
      rw [if_neg h, ih]
      exact ite_congr (propext (by rw [List.length_cons]; omega)) (fun _ => rfl) (fun _ => rfl)

theorem minApproval_eq (a : Nat) (vs : List Drift) :
    minApproval a vs = if 1 ≤ vs.length ∧ a ≤ vs.count .drift then .drift else .none := by
  rw [minApproval, minApprovalLoop_eq, Nat.zero_add]

/-- the loop from the counts it can reach: approvals are filled first (`nc = 0` until `na = a`), and it
    looks at a drift vote before it answers -/
theorem orderedLoop_eq (a c na nc : Nat) (hinv : na ≤ a ∧ nc ≤ c ∧ (na < a → nc = 0)) (vs : List Drift) :
    orderedLoop a c na nc vs =
      if 1 ≤ vs.count .drift ∧ a + c ≤ na + nc + vs.count .drift then .drift else .none := by
  induction vs generalizing na nc with
  | nil => rw [orderedLoop, if_neg]; rw [List.count_nil]; omega
  | cons d ds ih =>
    rw [orderedLoop]
    by_cases hd : d = .drift
    · rw [hd, if_pos rfl, List.count_cons_self]
      by_cases hlt : na < a
      · simp only [hlt, if_true]
        by_cases hdone : na + 1 ≥ a ∧ nc ≥ c
        · rw [if_pos hdone, if_pos (by omega)]
        · rw [if_neg hdone, ih _ _ (by omega)]
          exact ite_congr (propext (by omega)) (fun _ => rfl) (fun _ => rfl)
      · simp only [hlt, if_false]
        by_cases hdone : na ≥ a ∧ nc + 1 ≥ c
        · rw [if_pos hdone, if_pos (by omega)]
        · rw [if_neg hdone, ih _ _ (by omega)]
          exact ite_congr (propext (by omega)) (fun _ => rfl) (fun _ => rfl)
    · rw [if_neg hd, ih _ _ hinv, List.count_cons_of_ne hd]

theorem ordered_eq (a c : Nat) (vs : List Drift) :
    ordered a c vs = if 1 ≤ vs.count .drift ∧ a + c ≤ vs.count .drift then .drift else .none := by
  rw [ordered, orderedLoop_eq a c 0 0 ⟨a.zero_le, c.zero_le, fun _ => rfl⟩, Nat.zero_add]

theorem majority_iff (vs : List Drift) :
    simpleMajority vs = .drift ↔ 2 * vs.count .drift > vs.length := by
  rw [simpleMajority, ite_drift_iff]; omega

theorem majority_range (vs : List Drift) :
    simpleMajority vs = .drift ∨ simpleMajority vs = .none := ite_drift_range

/-- `MinimumApprovalElection(a)` alarms iff at least `a` members report drift (documented domain `a ≥ 1`). -/
theorem minimum_iff (a : Nat) (h : 1 ≤ a) (vs : List Drift) :
    minApproval a vs = .drift ↔ vs.count .drift ≥ a := by
  have := List.count_le_length (a := Drift.drift) (l := vs)
  rw [minApproval_eq, ite_drift_iff]; omega

/-- the degenerate parameter `a = 0`: alarms iff there is at least one member -/
theorem minimum_zero (vs : List Drift) : minApproval 0 vs = .drift ↔ vs ≠ [] := by
  rw [minApproval_eq, ite_drift_iff, ← List.length_pos_iff]; exact ⟨And.left, fun h => ⟨h, Nat.zero_le _⟩⟩

theorem minimum_range (a : Nat) (vs : List Drift) :
    minApproval a vs = .drift ∨ minApproval a vs = .none := by
  rw [minApproval_eq]; exact ite_drift_range

/-- `OrderedApprovalElection(a, c)` alarms iff at least `a + c` members report drift. -/
theorem ordered_iff (a c : Nat) (h : 1 ≤ a + c) (vs : List Drift) :
    ordered a c vs = .drift ↔ vs.count .drift ≥ a + c := by
  rw [ordered_eq, ite_drift_iff]; omega

/-- the degenerate `a = c = 0`: alarms iff at least one member reports drift -/
theorem ordered_zero (vs : List Drift) : ordered 0 0 vs = .drift ↔ vs.count .drift ≥ 1 := by
  rw [ordered_eq, ite_drift_iff]; omega

theorem ordered_range (a c : Nat) (vs : List Drift) :
    ordered a c vs = .drift ∨ ordered a c vs = .none := by
  rw [ordered_eq]; exact ite_drift_range

/-- `ws` is `vs` with some members turned to drift (monotonicity below: that never retracts a
    drift verdict) -/
def MoreDrift : List Drift → List Drift → Prop
  | [], [] => True
  | v :: vs, w :: ws => (w = v ∨ w = .drift) ∧ MoreDrift vs ws
  | _, _ => False

theorem MoreDrift.length_eq : ∀ {vs ws : List Drift}, MoreDrift vs ws → vs.length = ws.length
  | [], [], _ => rfl
  | _ :: vs, _ :: ws, h => by simp [MoreDrift.length_eq (vs := vs) (ws := ws) h.2]
  | [], _ :: _, h => h.elim
  | _ :: _, [], h => h.elim

theorem MoreDrift.count_le : ∀ {vs ws : List Drift}, MoreDrift vs ws →
    vs.count .drift ≤ ws.count .drift
  | [], [], _ => by simp
  | v :: vs, w :: ws, h => by
    have ih := MoreDrift.count_le (vs := vs) (ws := ws) h.2
    rcases h.1 with rfl | rfl
    · simp only [List.count_cons]; omega
    · simp only [List.count_cons]; split <;> simp <;> omega
  | [], _ :: _, h => h.elim
  | _ :: _, [], h => h.elim

theorem majority_monotone {vs ws : List Drift} (h : MoreDrift vs ws)
    (hv : simpleMajority vs = .drift) : simpleMajority ws = .drift := by
  rw [majority_iff] at *
  have := h.count_le; have := h.length_eq; omega

theorem minimum_monotone (a : Nat) {vs ws : List Drift} (h : MoreDrift vs ws)
    (hv : minApproval a vs = .drift) : minApproval a ws = .drift := by
  rw [minApproval_eq, ite_drift_iff] at *
  have := h.count_le; have := h.length_eq; omega

theorem ordered_monotone (a c : Nat) {vs ws : List Drift} (h : MoreDrift vs ws)
    (hv : ordered a c vs = .drift) : ordered a c ws = .drift := by
  rw [ordered_eq, ite_drift_iff] at *
  have := h.count_le; omega

/-- the specification automaton of one member: idle, or still voting for `r` more calls -/
inductive Mem where
  | idle
  | waiting (r : Nat)
  deriving DecidableEq, Repr

def Mem.step (w : Nat) : Mem → Drift → Ballot × Mem
  | .idle, .drift => (.voter, if w = 0 then .idle else .waiting w)
  | .idle, .warning => (.warn, .idle)
  | .idle, .none => (.nothing, .idle)
  | .waiting r, .warning => (.warn, .waiting r)
  | .waiting r, _ => (.voter, if r - 1 = 0 then .idle else .waiting (r - 1))

def absCtr (w : Nat) (c : Nat) : Mem := if c = 0 then .idle else .waiting (w + 1 - c)

/-- One member: the code's counter arithmetic implements the specification automaton. -/
theorem member_refines (w c : Nat) (hc : c ≤ w) (st : Drift) :
    (memberStep c st).1 = (Mem.step w (absCtr w c) st).1 ∧
    absCtr w (expire w (memberStep c st).2) = (Mem.step w (absCtr w c) st).2 ∧
    expire w (memberStep c st).2 ≤ w := by
  -- a counter `c ≠ 0` stands for `r = w + 1 - c` calls to go: counting up is `r - 1`, and the counter
  -- expires (`c + 1 > w`) exactly when `r - 1 = 0`; `hc` is needed for `warning` only, where nothing moves
  cases st <;> grind [memberStep, absCtr, expire, Mem.step]

def CtrsOk (w : Nat) : Option (List Nat) → Prop
  | Option.none => True
  | some cs => ∀ c ∈ cs, c ≤ w

/-- After every call the per-member wait counters never exceed `wait_time`. -/
theorem counters_le_wait (e : Confirmed) (vs : List Drift) :
    CtrsOk e.wait (e.call vs).2.ctrs := by
  unfold Confirmed.call CtrsOk
  simp only [List.mem_map]
  rintro c ⟨b, _, rfl⟩
  unfold expire; split <;> omega

/-- the ballots of one call according to the specification automaton -/
def specBallots (w : Nat) (ms : List Mem) (vs : List Drift) : List Ballot :=
  List.zipWith (fun m v => (Mem.step w m v).1) ms vs

theorem zipWith_congr_left {α β γ : Type} {f g : α → β → γ} (l : List α) (l' : List β)
    (h : ∀ a ∈ l, ∀ b, f a b = g a b) : List.zipWith f l l' = List.zipWith g l l' := by
  induction l generalizing l' with
  | nil => rfl
  | cons a l ih =>
    cases l' with
    | nil => rfl
    | cons b l' =>
      rw [List.zipWith_cons_cons, List.zipWith_cons_cons, h a List.mem_cons_self b,
        ih l' (fun a ha => h a (List.mem_cons_of_mem _ ha))]

theorem ballots_refine (w : Nat) (cs : List Nat) (vs : List Drift) (hcs : ∀ c ∈ cs, c ≤ w) :
    (List.zipWith memberStep cs vs).map (·.1) = specBallots w (cs.map (absCtr w)) vs := by
  rw [specBallots, List.map_zipWith, List.zipWith_map_left]
  exact zipWith_congr_left cs vs fun c hc v => (member_refines w c (hcs c hc) v).1

theorem ctrs_refine (w : Nat) (cs : List Nat) (vs : List Drift) (hcs : ∀ c ∈ cs, c ≤ w) :
    ((List.zipWith memberStep cs vs).map (fun b => expire w b.2)).map (absCtr w) =
      List.zipWith (fun m v => (Mem.step w m v).2) (cs.map (absCtr w)) vs := by
  simp only [List.map_zipWith, List.zipWith_map_left]
  exact zipWith_congr_left cs vs fun c hc v => (member_refines w c (hcs c hc) v).2.1

/-- the verdict from a list of ballots: the rule `ConfirmedElection.__call__` applies to its two counts -/
def verdictOf (sens : Nat) (bs : List Ballot) : Drift :=
  let nd := bs.count .voter
  let nw := bs.count .warn
  if nd ≥ sens then .drift else if nw + nd ≥ sens then .warning else .none

theorem filter_length_eq_count (bs : List (Ballot × Nat)) (b : Ballot) :
    (bs.filter (fun x => x.1 = b)).length = (bs.map (·.1)).count b := by
  rw [List.count_eq_countP, List.countP_map, List.countP_eq_length_filter]
  congr 2

/-- **Refinement**: a call of `ConfirmedElection` returns the verdict of the specification
automata and moves every member's counter to the abstraction of the automaton's next state.
Nothing is assumed about the lengths of `cs` and `vs`: where they differ the model truncates
(`List.zipWith`) and the code does not, so there the equality speaks of the model only. -/
theorem confirmed_refines (e : Confirmed) (vs : List Drift) (cs : List Nat)
    (hc : e.ctrs = some cs) (hcs : ∀ c ∈ cs, c ≤ e.wait) :
    (e.call vs).1 = verdictOf e.sens (specBallots e.wait (cs.map (absCtr e.wait)) vs) ∧
    ∃ cs', (e.call vs).2.ctrs = some cs' ∧
      cs'.map (absCtr e.wait) =
        List.zipWith (fun m v => (Mem.step e.wait m v).2) (cs.map (absCtr e.wait)) vs := by
  unfold Confirmed.call
  simp only [hc, Option.getD_some]
  refine ⟨?_, _, rfl, ctrs_refine e.wait cs vs hcs⟩
  unfold verdictOf
  simp only [filter_length_eq_count, ballots_refine e.wait cs vs hcs]

theorem call_of_none (e : Confirmed) (vs : List Drift) (hc : e.ctrs = Option.none) :
    e.call vs = ({ e with ctrs := some (List.replicate vs.length 0) } : Confirmed).call vs := by
  simp [Confirmed.call, hc]

theorem zeros_le (n w : Nat) : ∀ c ∈ List.replicate n 0, c ≤ w :=
  fun _ hc => Nat.le_trans (Nat.le_of_eq (List.eq_of_mem_replicate hc)) w.zero_le

theorem map_absCtr_replicate (w n : Nat) :
    (List.replicate n 0).map (absCtr w) = List.replicate n Mem.idle := List.map_replicate

/-- first call: counters start at zero = every member idle -/
theorem confirmed_first (e : Confirmed) (vs : List Drift) (hc : e.ctrs = Option.none) :
    (e.call vs).1 = verdictOf e.sens (specBallots e.wait (List.replicate vs.length .idle) vs) := by
  rw [call_of_none e vs hc, ← map_absCtr_replicate]
  exact (confirmed_refines _ vs _ rfl (zeros_le _ _)).1

theorem confirmed_range (e : Confirmed) (vs : List Drift) :
    (e.call vs).1 = .drift ∨ (e.call vs).1 = .warning ∨ (e.call vs).1 = .none := by
  unfold Confirmed.call
  simp only
  split
  · simp
  · split <;> simp

/-- verdicts of the implementation model along a history of calls -/
def Confirmed.verdicts (e : Confirmed) : List (List Drift) → List Drift
  | [] => []
  | vs :: rest => (e.call vs).1 :: Confirmed.verdicts (e.call vs).2 rest

/-- verdicts of the specification automata along a history of calls -/
def specVerdicts (sens w : Nat) (ms : List Mem) : List (List Drift) → List Drift
  | [] => []
  | vs :: rest =>
    verdictOf sens (specBallots w ms vs) ::
      specVerdicts sens w (List.zipWith (fun m v => (Mem.step w m v).2) ms vs) rest

/-- **Refinement over histories.**  From any state whose counters are within `wait_time`, the
sequence of verdicts returned over an arbitrary history of calls is the sequence the specification
automata (abstraction of the counters) produce.  The vote vectors of `hist` may differ in length from
each other and from `cs`; as in `confirmed_refines`, the equality then speaks of the model only. -/
theorem confirmed_history_refines (e : Confirmed) (cs : List Nat) (hc : e.ctrs = some cs)
    (hcs : ∀ c ∈ cs, c ≤ e.wait) (hist : List (List Drift)) :
    e.verdicts hist = specVerdicts e.sens e.wait (cs.map (absCtr e.wait)) hist := by
  induction hist generalizing e cs with
  | nil => rfl
  | cons vs rest ih =>
    obtain ⟨hv, cs', hc', habs⟩ := confirmed_refines e vs cs hc hcs
    have hle := counters_le_wait e vs
    rw [hc'] at hle
    rw [Confirmed.verdicts, specVerdicts, hv, ih (e.call vs).2 cs' hc' hle, ← habs]
    rfl

/-- … in particular from the freshly constructed election (first call initialises the counters). -/
theorem confirmed_history_from_init (sens wait : Nat) (vs : List Drift) (rest : List (List Drift)) :
    ({ sens := sens, wait := wait } : Confirmed).verdicts (vs :: rest) =
      specVerdicts sens wait (List.replicate vs.length .idle) (vs :: rest) := by
  rw [Confirmed.verdicts, call_of_none _ vs rfl, ← map_absCtr_replicate]
  exact confirmed_history_refines { sens := sens, wait := wait, ctrs := some (List.replicate vs.length 0) } _ rfl
    (zeros_le _ _) (vs :: rest)

example : minApproval 2 [.drift, .none, .drift] = .drift := by decide
example : ordered 1 1 [.drift, .warning, .none] = .none := by decide
example : simpleMajority [.drift, .drift, .none, .none] = .none := by decide
example : let e : Confirmed := { sens := 2, wait := 2 }
    let r1 := e.call [.drift, .none]
    let r2 := r1.2.call [.none, .drift]
    r1.1 = .none ∧ r2.1 = .drift ∧ r2.2.ctrs = some [2, 1] := by decide

example : ({ sens := 2, wait := 1 } : Confirmed).verdicts [[.drift, .none], [.none, .warning], [.none, .drift]]
    = [.none, .warning, .none] := by decide

end MV.Election
