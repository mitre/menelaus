/-
  C09 — non-vacuity over ℚ: a streaming history through all phases to a drift and the next epoch, and a batch history
  with a drift (`exS`, `exIn`, `ex_stream`, `exB`).  The instances `HasLogExp ℚ` (a surrogate `log`) and `HasRint ℚ` are
  global: the examples of the other kdq-tree property files compute with them and with this demo data.
-/
import MenelausVerif.Props.C09
import MenelausVerif.Props.C08Examples
namespace MV.KdqDet
open MV MV.Kdq

section examples

/-- surrogate `log` (`x - 1`) on ℚ, only to obtain a *computable* witness: the lifecycle theorems
    hold for every carrier, so any instance shows that their hypotheses are satisfiable.  The two
    instances are global (the examples of other property files compute with them): a divergence
    evaluated over ℚ anywhere downstream is a value of this surrogate, not a Kullback-Leibler value. -/
instance : HasLogExp ℚ := ⟨fun x => x - 1, fun x => x + 1⟩
instance : HasRint ℚ := ⟨fun x =>
  let f := ⌊x⌋
  if x - f < 1 / 2 then f.toNat else if 1 / 2 < x - f then f.toNat + 1 else if f % 2 = 0 then f.toNat else f.toNat + 1⟩

def exS : SCfg ℚ := { window := 2, persistence := 1/2, alpha := 1/2, part := { countUbound := 1, cplb := 0 } }
/-- reference 0, 1 (tree with two leaves, bootstrap draw 0,1,0,1), then three samples in the left
    leaf, then a sample that starts the next epoch -/
def exIn : List (List ℚ × List (List Nat)) :=
  [([0], []), ([1], [[0, 1, 0, 1]]), ([0], []), ([0], []), ([0], []), ([1], [])]

/-- building, built, waiting, then two exceeding evaluations in a row: 1 is not > 1/2·2, 2 is -/
theorem ex_stream : (sRun exS sInit (exIn.take 5)).map (fun r => (r.2, r.1.drift, r.1.counter)) =
    some ([.building, .built, .waiting, .eval true, .eval true], .drift, 2) := by decide +kernel

/-- the next sample starts a new epoch: state cleared, the sample is the first of the new reference -/
example : (sRun exS sInit exIn).map (fun r => (r.2, r.1.drift, r.1.counter, r.1.refData)) =
    some ([.building, .built, .waiting, .eval true, .eval true, .building], .none, 0, [[1]]) := by decide +kernel

/-- `stream_drift_iff` applied to that history -/
example : ∃ s evs, sRun exS sInit (exIn.take 5) = some (s, evs) ∧ s.drift = .drift ∧ runLength evs = 2 := by
  obtain ⟨⟨s, evs⟩, h, he⟩ := Option.map_eq_some_iff.mp ex_stream
  simp only [Prod.mk.injEq] at he
  exact ⟨s, evs, h, he.2.1, by rw [he.1]; decide⟩

def exB : BCfg ℚ := { alpha := 1/2, part := { countUbound := 1, cplb := 0 } }
/-- batch: reference {0,1}; the batch {0,0} exceeds: drift, and it is remembered as the next reference -/
example : ((bStep exB bInit 1 [[0], [1]] [[0, 1, 0, 1]]).bind (fun r => bStep exB r.1 1 [[0], [0]] [])).map
    (fun r => (r.2, r.1.drift, r.1.refData)) = some (some true, .drift, some [[0], [0]]) := by decide +kernel

end examples

end MV.KdqDet
