/-
  C01 — the lifecycle contract.

  `Model/Lifecycle.lean` judges a trace row by row (`violated`, then `advance`: the two functions the
  driver calls on the rows of the real detectors); `accept` folds them up to the first violation.  Here:
  `accept` returns `none` iff the declarative contract `Holds` is true of the trace, and what one
  accepted row `RowOK c m o` says in user terms (total counts updates and never goes back; the
  since-reset counter advances by one except where it restarts, which happens exactly on the update
  after a reported drift or when a kdq reference completes; nothing is reported before the warm-up;
  recommendations at a drift end at the current sample and start no later).  Each of these readings is
  a clause of the contract unfolded, relative to the acceptor's memory `m` before the row; after a row,
  `total / since / prevDrift` of the memory are that row's (`Mirror.advance`).

  From `Mirror` on: what the proofs that every trace of every detector model is accepted
  (`Props/C01Models.lean`, `Props/C01More.lean`) rest on.
-/
import MenelausVerif.Model.Lifecycle
import MenelausVerif.Lemmas.ErrTrace
namespace MV.Lifecycle
open MV

/-- the declarative per-row contract -/
structure RowOK (c : Cfg) (m : Mon) (o : Obs) : Prop where
  total : o.total = expectedTotal c m
  since : o.since = expectedSince c m o
  warm : o.drift ≠ .none → warm c m o = true
  recsAtDrift : c.hasRecs = true → o.drift = .drift → recsAtDrift o = true
  recsCleared : c.hasRecs = true → m.prevDrift = .drift → ¬(c.kind = .adwin ∧ o.drift = .drift) → recsFresh o = true
  adwin : c.kind = .adwin → o.drift = .drift → adwinRecs m o = true

/-- the contract over a whole trace -/
def Holds (c : Cfg) : Mon → List Obs → Prop
  | _, [] => True
  | m, o :: os => RowOK c m o ∧ Holds c (advance m o) os

private theorem ite_some_eq_none {α : Type} {p : Prop} [Decidable p] {a : α} {x : Option α} :
    (if p then some a else x) = none ↔ ¬p ∧ x = none := by
  split
  · rename_i h; exact ⟨nofun, fun h' => absurd h h'.1⟩
  · rename_i h; exact ⟨fun h' => ⟨h, h'⟩, fun h' => h'.2⟩

theorem violated_none_iff (c : Cfg) (m : Mon) (o : Obs) : violated c m o = none ↔ RowOK c m o := by
  unfold violated
  -- every `if` of the chain fails, and a failing `P ∧ check = false` is `P → check = true`
  simp only [ite_some_eq_none, not_and, Bool.not_eq_false, Decidable.not_not, and_true, ne_eq]
  exact ⟨fun ⟨h1, h2, h3, h4, h5, h6⟩ => ⟨h1, h2, h3, h4, fun a b k => h5 a b (not_and.mp k), h6⟩,
    fun ⟨h1, h2, h3, h4, h5, h6⟩ => ⟨h1, h2, h3, h4, fun a b k => h5 a b (not_and.mpr k), h6⟩⟩

/-- **The acceptor decides the contract.** -/
theorem accept_none_iff (c : Cfg) (m : Mon) (i : Nat) (os : List Obs) :
    accept c m i os = none ↔ Holds c m os := by
  induction os generalizing m i with
  | nil => simp [accept, Holds]
  | cons o os ih =>
    unfold accept Holds
    cases hv : violated c m o with
    | some cl =>
      simp only [reduceCtorEq, false_iff]
      intro ⟨hr, _⟩
      rw [(violated_none_iff c m o).2 hr] at hv; cases hv
    | none =>
      simp only
      rw [ih]
      exact ⟨fun h => ⟨(violated_none_iff c m o).1 hv, h⟩, fun h => h.2⟩

theorem recsAtDrift_iff (o : Obs) :
    recsAtDrift o = true ↔ ∃ x y, o.recs = (some x, some y) ∧ x ≤ y ∧ y + 1 = o.total := by
  unfold recsAtDrift
  rcases o.recs with ⟨_ | x, _ | y⟩
  · exact ⟨nofun, fun ⟨_, _, h, _⟩ => nomatch h⟩
  · exact ⟨nofun, fun ⟨_, _, h, _⟩ => nomatch h⟩
  · exact ⟨nofun, fun ⟨_, _, h, _⟩ => nomatch h⟩
  · simp only [Bool.and_eq_true, decide_eq_true_eq]
    exact ⟨fun h => ⟨x, y, rfl, h⟩, fun ⟨_, _, h, g⟩ => by cases h; exact g⟩

theorem recsFresh_iff (o : Obs) :
    recsFresh o = true ↔
      (∀ x, o.recs.1 = some x → o.total ≤ x + 1) ∧ (∀ y, o.recs.2 = some y → o.total ≤ y + 1) := by
  unfold recsFresh
  rcases o.recs with ⟨_ | x, _ | y⟩ <;> simp

/-- the acceptor's memory after a trace -/
def lastMon (m : Mon) (os : List Obs) : Mon := os.foldl advance m

/-- where every update counts once, **total counts the updates** -/
theorem total_counts (c : Cfg) (hinc : c.incAfterDrift = 1) (m : Mon) (os : List Obs)
    (h : Holds c m os) : (lastMon m os).total = m.total + os.length := by
  induction os generalizing m with
  | nil => rfl
  | cons o os ih =>
    show (lastMon (advance m o) os).total = _
    rw [ih _ h.2, List.length_cons]
    show o.total + os.length = _
    rw [h.1.total, expectedTotal, hinc, ite_self, Nat.add_assoc, Nat.add_comm 1]

/-- **total never goes back** -/
theorem total_monotone (c : Cfg) (hinc : 1 ≤ c.incAfterDrift) (m : Mon) (o : Obs)
    (h : RowOK c m o) : m.total < o.total := by
  rw [h.total]
  refine Nat.lt_add_of_pos_right ?_
  split
  · exact hinc
  · exact Nat.one_pos

/-- the since-reset counter advances by exactly one unless a restart event happens -/
theorem since_advances (c : Cfg) (m : Mon) (o : Obs) (h : RowOK c m o)
    (hd : m.prevDrift ≠ .drift) (hr : o.refDone = false) : o.since = m.since + 1 := by
  rw [h.since]; simp [expectedSince, hd, hr]

/-- the since-reset counter restarts, with no `reset()` call, on the update that follows a reported drift -/
theorem since_restarts (c : Cfg) (m : Mon) (o : Obs) (h : RowOK c m o)
    (hd : m.prevDrift = .drift) (hr : o.refDone = false) : o.since = c.restart := by
  rw [h.since]; simp [expectedSince, hd, hr]

/-- nothing is reported before the documented minimum amount of data: a reported warning / drift
    satisfies the kind's warm-up predicate (the table `warm` itself; the readings below unfold it kind by
    kind, in terms of the row and of the acceptor's memory before it) -/
theorem warm_of_reported (c : Cfg) (m : Mon) (o : Obs) (h : RowOK c m o) (hd : o.drift ≠ .none) :
    warm c m o = true := h.warm hd

/-- DDM: `n_threshold` samples in the epoch -/
theorem warm_ddm (c : Cfg) (m : Mon) (o : Obs) (h : RowOK c m o) (hk : c.kind = .ddm)
    (hd : o.drift ≠ .none) : o.since ≥ c.a := by
  simpa [warm, hk] using h.warm hd

/-- CUSUM, PageHinkley: past the burn-in -/
theorem warm_burnin (c : Cfg) (m : Mon) (o : Obs) (h : RowOK c m o) (hk : c.kind = .burnin)
    (hd : o.drift ≠ .none) : o.since > c.a := by
  simpa [warm, hk] using h.warm hd

/-- STEPD: two full windows in the epoch -/
theorem warm_stepd (c : Cfg) (m : Mon) (o : Obs) (h : RowOK c m o) (hk : c.kind = .stepd)
    (hd : o.drift ≠ .none) : o.since ≥ 2 * c.a := by
  simpa [warm, hk] using h.warm hd

/-- HDDDM / CDBD: not before the `detect_batch`-th batch of the epoch, and never on its first (the
    drift test needs a previous distance: `HDM.testsDrift`) -/
theorem warm_hdm (c : Cfg) (m : Mon) (o : Obs) (h : RowOK c m o) (hk : c.kind = .hdm)
    (hd : o.drift ≠ .none) : o.since ≥ 2 ∧ o.since ≥ c.a := by
  have := h.warm hd
  simp only [warm, hk, decide_eq_true_eq] at this
  omega

/-- ADWIN: on the check schedule, and the window — as the acceptor reconstructs its width (`widthNow`: one
    more per row, the length of the recommended range after a cut) — is past `window_size_thresh` once
    the sample is added -/
theorem warm_adwin (c : Cfg) (m : Mon) (o : Obs) (h : RowOK c m o) (hk : c.kind = .adwin)
    (hd : o.drift ≠ .none) : o.total % c.b = 0 ∧ m.width + 1 > c.a := by
  simpa [warm, hk] using h.warm hd

/-- EDDM: at least `n_threshold` rows flagged `err`, this one included, since the row after the last
    reported drift (the acceptor's count `errsNow`) -/
theorem warm_eddm (c : Cfg) (m : Mon) (o : Obs) (h : RowOK c m o) (hk : c.kind = .eddm)
    (hd : o.drift ≠ .none) : errsNow m o ≥ c.a := by
  simpa [warm, hk] using h.warm hd

/-- LinearFourRates: past the burn-in and on a multiple of `subsample` -/
theorem warm_lfr (c : Cfg) (m : Mon) (o : Obs) (h : RowOK c m o) (hk : c.kind = .lfr)
    (hd : o.drift ≠ .none) : o.since > c.a ∧ o.since % c.b = 0 := by
  simpa [warm, hk] using h.warm hd

/-- KdqTreeStreaming: the reference tree exists, the update is not the one that completed the reference
    window nor the one that follows a drift, and the epoch has at least `window_size` samples -/
theorem warm_kdqS (c : Cfg) (m : Mon) (o : Obs) (h : RowOK c m o) (hk : c.kind = .kdqS)
    (hd : o.drift ≠ .none) :
    m.refBuilt = true ∧ o.refDone = false ∧ m.prevDrift ≠ .drift ∧ o.since ≥ c.a := by
  have := h.warm hd
  simp only [warm, hk, Bool.and_eq_true, Bool.not_eq_true', decide_eq_true_eq, decide_eq_false_iff_not] at this
  exact ⟨this.1.1.1, this.1.1.2, this.1.2, this.2⟩

/-- KdqTreeBatch, NNDVI: at least one test batch after the reference -/
theorem warm_batch1 (c : Cfg) (m : Mon) (o : Obs) (h : RowOK c m o) (hk : c.kind = .batch1)
    (hd : o.drift ≠ .none) : o.since ≥ 1 := by
  simpa [warm, hk] using h.warm hd

/-- PCACD: on the score schedule, and both windows full — `2 * window_size` samples in the first epoch
    (the acceptor has seen no drift yet: `epoch = 0`), `window_size` in an epoch that follows a drift -/
theorem warm_pcacd (c : Cfg) (m : Mon) (o : Obs) (h : RowOK c m o) (hk : c.kind = .pcacd)
    (hd : o.drift ≠ .none) :
    (o.total - 1) % c.b = 0 ∧ o.since ≥ (if m.epoch = 0 then 2 * c.a else c.a) := by
  simpa [warm, hk] using h.warm hd

/-- a recommendation reported with a drift is an index range ending at the current sample -/
theorem recs_at_drift (c : Cfg) (m : Mon) (o : Obs) (h : RowOK c m o) (hr : c.hasRecs = true)
    (hd : o.drift = .drift) : ∃ x y, o.recs = (some x, some y) ∧ x ≤ y ∧ y + 1 = o.total :=
  (recsAtDrift_iff o).1 (h.recsAtDrift hr hd)

/-- non-vacuity: a two-epoch DDM-style trace that the acceptor accepts -/
example :
    accept { kind := .ddm, a := 2, b := 1, restart := 1, incAfterDrift := 1, hasRecs := true } {} 0
      [ { drift := .none, total := 1, since := 1, recs := (none, none), err := false, refDone := false },
        { drift := .warning, total := 2, since := 2, recs := (some 1, none), err := false, refDone := false },
        { drift := .drift, total := 3, since := 3, recs := (some 1, some 2), err := false, refDone := false },
        { drift := .none, total := 4, since := 1, recs := (none, none), err := false, refDone := false },
        { drift := .none, total := 5, since := 2, recs := (none, none), err := false, refDone := false },
        { drift := .drift, total := 6, since := 3, recs := (some 5, some 5), err := false, refDone := false } ] = none := by
  decide

/-- a trace the acceptor rejects: a warning before `n_threshold` -/
example :
    accept { kind := .ddm, a := 3, b := 1, restart := 1, incAfterDrift := 1, hasRecs := true } {} 0
      [ { drift := .none, total := 1, since := 1, recs := (none, none), err := false, refDone := false },
        { drift := .warning, total := 2, since := 2, recs := (some 1, none), err := false, refDone := false } ]
      = some (1, "warmup") := by
  decide

/-- The acceptor's memory agrees with a detector's public counters and state.  Only these three fields:
    `warm` and `adwinRecs` also read `errs`, `width`, `epoch`, `refBuilt`, and a detector whose clauses
    need one of them links it in its own invariant (`eddmInv`, `adwinInv`, `pcacdInv`, `kdqSInv`). -/
structure Mirror (m : Mon) (t n : Nat) (d : Drift) : Prop where
  total : m.total = t
  since : m.since = n
  drift : m.prevDrift = d

theorem Mirror.advance (m : Mon) (o : Obs) : Mirror (advance m o) o.total o.since o.drift :=
  ⟨rfl, rfl, rfl⟩

/-- **A row checked against the mirrored attributes** `(t, n, d)`: the detector's public `total`, `since`
    and `drift_state` before the update.  The hypotheses are the contract's clauses with the acceptor's
    `total`, `since`, `prevDrift` replaced by these. -/
theorem violated_none_of_mirror {c : Cfg} {m : Mon} {o : Obs} {t n : Nat} {d : Drift}
    (hm : Mirror m t n d)
    (ht : o.total = t + if d = .drift then c.incAfterDrift else 1)
    (hs : o.since = if o.refDone then 0 else if d = .drift then c.restart else n + 1)
    (hw : o.drift ≠ .none → warm c m o = true)
    (hrd : c.hasRecs = true → o.drift = .drift → recsAtDrift o = true)
    (hrf : c.hasRecs = true → d = .drift → ¬(c.kind = .adwin ∧ o.drift = .drift) → recsFresh o = true)
    (ha : c.kind = .adwin → o.drift = .drift → adwinRecs m o = true) :
    violated c m o = none := by
  obtain ⟨rfl, rfl, rfl⟩ := hm
  exact (violated_none_iff c m o).2 ⟨ht, hs, hw, hrd, hrf, ha⟩

/-- The common case: every update counts once, no kdq reference, not ADWIN.  Applied to a concrete
    `Cfg` and row, `hinc` and `href` are `rfl`, `hk` is `nofun`, and so is `hrec` for a detector without
    recommendations. -/
theorem violated_none_of_step {c : Cfg} {m : Mon} {o : Obs} {t n : Nat} {d : Drift}
    (hm : Mirror m t n d) (hinc : c.incAfterDrift = 1) (ht : o.total = t + 1)
    (hs : o.since = if d = .drift then c.restart else n + 1) (href : o.refDone = false)
    (hw : o.drift ≠ .none → warm c m o = true) (hk : c.kind ≠ .adwin)
    (hrec : c.hasRecs = true →
      (o.drift = .drift → recsAtDrift o = true) ∧ (d = .drift → recsFresh o = true)) :
    violated c m o = none :=
  violated_none_of_mirror hm (by rw [ht, hinc, ite_self]) (by rw [href]; exact hs) hw
    (fun h => (hrec h).1) (fun h hd _ => (hrec h).2 hd) (fun h => absurd h hk)

/-- the two ways the models state "`since` restarts at 1 after a drift" -/
theorem restart_one (p : Prop) [Decidable p] (n : Nat) :
    (if p then 0 else n) + 1 = if p then 1 else n + 1 := by split <;> rfl

/-- A row whose recommendation follows the DDM / EDDM / LFR rule (`incRecsFirst` on the recommendation
    cleared after a drift) passes both checks of the recommendation, and its start is an index already
    seen. -/
theorem recs_of_first {o : Obs} {d : Drift} {k : Nat} {r : Recs} (ht : o.total = k + 1)
    (hrecs : o.recs = incRecsFirst o.drift k (if d = .drift then Recs.empty else r))
    (hr : ∀ a, r.1 = some a → a < k) :
    ((o.drift = .drift → recsAtDrift o = true) ∧ (d = .drift → recsFresh o = true)) ∧
      ∀ a, o.recs.1 = some a → a < o.total := by
  have hsnd : o.recs.2 = if o.drift = .drift then some k else (if d = .drift then Recs.empty else r).2 := by
    rw [hrecs, incRecsFirst_snd]
  cases h1 : (if d = .drift then Recs.empty else r).1 with
  | some b =>
    -- a start recorded earlier in the epoch (so no drift came before it) is kept
    have hnd : d ≠ .drift := fun hd => by rw [if_pos hd] at h1; cases h1
    have hb : b < k := hr b (by rwa [if_neg hnd] at h1)
    have hfst : o.recs.1 = some b := by rw [hrecs]; exact incRecsFirst_fst_some _ _ h1
    refine ⟨⟨fun hd => ?_, fun hd => absurd hd hnd⟩, fun a ha => ?_⟩
    · rw [if_pos hd] at hsnd
      exact (recsAtDrift_iff o).2 ⟨b, k, Prod.ext hfst hsnd, Nat.le_of_lt hb, ht.symm⟩
    · rw [hfst] at ha; cases ha
      rw [ht]; exact Nat.lt_succ_of_lt hb
  | none =>
    -- no start yet: a warning or drift records the current index
    have hfst : o.recs.1 = if o.drift = .none then none else some k := by
      rw [hrecs]; exact incRecsFirst_fst_none _ _ h1
    refine ⟨⟨fun hd => ?_, fun hd => ?_⟩, fun a ha => ?_⟩
    · rw [if_pos hd] at hsnd; rw [if_neg (by rw [hd]; nofun)] at hfst
      exact (recsAtDrift_iff o).2 ⟨k, k, Prod.ext hfst hsnd, Nat.le_refl k, ht.symm⟩
    · rw [if_pos hd] at hsnd
      rw [recsFresh_iff, ht, hfst, hsnd]
      refine ⟨fun x hx => ?_, fun y hy => ?_⟩
      · split at hx
        · cases hx
        · cases hx; exact Nat.le_refl _
      · split at hy
        · cases hy; exact Nat.le_refl _
        · cases hy
    · rw [hfst] at ha
      split at ha
      · cases ha
      · cases ha; rw [ht]; exact Nat.lt_succ_self k

/-- A row whose recommendation follows the STEPD rule (empty while `None`, else `incRecsRun` on the
    recommendation cleared after a drift) passes both checks of the recommendation and stays a range of
    seen indices that ends at the latest sample. -/
theorem recs_of_run {o : Obs} {d : Drift} {k : Nat} {r : Recs} (ht : o.total = k + 1)
    (hnone : o.drift = .none → o.recs = Recs.empty)
    (hsome : o.drift ≠ .none → o.recs = incRecsRun k (if d = .drift then Recs.empty else r))
    (he : d = .none → r = Recs.empty)
    (hr : d ≠ .none → ∃ a, r = (some a, some (k - 1)) ∧ a + 1 ≤ k) :
    ((o.drift = .drift → recsAtDrift o = true) ∧ (d = .drift → recsFresh o = true)) ∧
      (o.drift ≠ .none → ∃ a, o.recs = (some a, some (o.total - 1)) ∧ a + 1 ≤ o.total) := by
  -- a non-`None` row recommends `[a, k]`, with `a = k` right after a drift
  have key : o.drift ≠ .none → ∃ a, o.recs = (some a, some k) ∧ a ≤ k ∧ (d = .drift → a = k) := by
    intro hne
    rw [hsome hne]
    by_cases hd : d = .drift
    · rw [if_pos hd]; exact ⟨k, rfl, Nat.le_refl k, fun _ => rfl⟩
    · rw [if_neg hd]
      by_cases hn : d = .none
      · rw [he hn]; exact ⟨k, rfl, Nat.le_refl k, fun h => absurd h hd⟩
      · obtain ⟨a, ha, hle⟩ := hr hn
        rw [ha]
        refine ⟨a, ?_, Nat.le_of_succ_le hle, fun h => absurd h hd⟩
        show (some a, some (k - 1 + 1)) = _
        rw [Nat.sub_add_cancel (Nat.le_trans (Nat.le_add_left 1 a) hle)]
  refine ⟨⟨fun hd => ?_, fun hd => ?_⟩, fun hne => ?_⟩
  · obtain ⟨a, ha, hle, -⟩ := key (by rw [hd]; nofun)
    exact (recsAtDrift_iff o).2 ⟨a, k, ha, hle, ht.symm⟩
  · rw [recsFresh_iff, ht]
    by_cases hn : o.drift = .none
    · rw [hnone hn]; exact ⟨nofun, nofun⟩
    · obtain ⟨a, ha, -, hk⟩ := key hn
      rw [ha, hk hd]
      exact ⟨fun x h => by cases h; exact Nat.le_refl _, fun x h => by cases h; exact Nat.le_refl _⟩
  · obtain ⟨a, ha, hle, -⟩ := key hne
    exact ⟨a, by rw [ha, ht]; rfl, by rw [ht]; exact Nat.succ_le_succ hle⟩

theorem widthNow_of_not_drift (m : Mon) (o : Obs) (h : o.drift ≠ .drift) : widthNow m o = m.width + 1 := by
  unfold widthNow
  split
  · rename_i hd _; exact absurd hd h
  · rfl

/-- A row that reports a cut which kept `W` samples and recommends `[total - W, total - 1]`: the acceptor
    recovers `W` from the recommendation, and both checks of the recommendation pass. -/
theorem adwin_cut_row (m : Mon) (o : Obs) {W : Nat} (hd : o.drift = .drift)
    (hr : o.recs = (some (o.total - W), some (o.total - 1))) (h1 : 1 ≤ W) (h2 : W ≤ m.width + 1)
    (h3 : W ≤ o.total) : widthNow m o = W ∧ recsAtDrift o = true ∧ adwinRecs m o = true := by
  have hy : o.total - 1 + 1 = o.total := Nat.sub_add_cancel (Nat.le_trans h1 h3)
  have hw : widthNow m o = W := by
    unfold widthNow
    rw [hd, hr]
    show o.total - 1 + 1 - (o.total - W) = W
    rw [hy, Nat.sub_sub_self h3]
  refine ⟨hw, (recsAtDrift_iff o).2 ⟨_, _, hr, Nat.sub_le_sub_left h1 _, hy⟩, ?_⟩
  unfold adwinRecs
  rw [hr]
  simp only [hw, Bool.and_eq_true, decide_eq_true_eq]
  exact ⟨⟨Nat.sub_add_cancel h3, h1⟩, h2⟩

/-- rows observed along a run of a detector model: `row` is given the state *after* the update, and the input -/
def rowsOf {σ ι : Type} (step : σ → ι → σ) (row : σ → ι → Obs) : σ → List ι → List Obs
  | _, [] => []
  | s, x :: xs => row (step s x) x :: rowsOf step row (step s x) xs

/-- `Inv` links the acceptor's memory to the model's state, and every update of the model yields a row
    that violates no clause and re-establishes the link: the hypothesis of `model_accepted`. -/
def Keeps {σ ι : Type} (c : Cfg) (step : σ → ι → σ) (row : σ → ι → Obs) (Inv : Mon → σ → Prop) : Prop :=
  ∀ m s x, Inv m s → violated c m (row (step s x) x) = none ∧ Inv (advance m (row (step s x) x)) (step s x)

/-- **Transfer lemma**: under `hstep` (which is `Keeps c step row Inv`, written out) every trace of the
    model from linked states is accepted (= satisfies the contract), for all histories. -/
theorem model_accepted {σ ι : Type} (c : Cfg) (step : σ → ι → σ) (row : σ → ι → Obs)
    (Inv : Mon → σ → Prop)
    (hstep : ∀ m s x, Inv m s → violated c m (row (step s x) x) = none ∧ Inv (advance m (row (step s x) x)) (step s x)) :
    ∀ (xs : List ι) (m : Mon) (s : σ) (i : Nat), Inv m s → accept c m i (rowsOf step row s xs) = none := by
  intro xs
  induction xs with
  | nil => intro m s i _; rfl
  | cons x xs ih =>
    intro m s i h
    obtain ⟨h1, h2⟩ := hstep m s x h
    simp only [rowsOf, accept, h1]
    exact ih _ _ _ h2

end MV.Lifecycle
