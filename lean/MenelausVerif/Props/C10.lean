/-
  C10 — NN-DVI measures neighbourhood density change between exactly the given batches.

  Statement (properties.jsonl): NNSpacePartitioner marks, for any two samples of any
  sizes, exactly the points of the first sample in v1 and exactly those of the second in
  v2 over the de-duplicated union, its adjacency matrix is the k-nearest-neighbour
  relation (each point included) of that union, and the NNPS distance is symmetric in the
  two samples, lies in [0, 1] and is 0 when both samples are the same set.  NNDVI reports
  drift for a test batch exactly when its NNPS distance to the reference exceeds the
  (1 - alpha) quantile of the normal distribution fitted to the distances obtained under
  sampling_times random re-assignments of the pooled points; on drift the test batch
  becomes the reference, otherwise the reference is kept.

  Model: Model/NNSP.lean.  Pool and membership vectors (`pool_spec`, `v1_exact`, `v2_exact`, `cover`)
  are in Lemmas/NNSPOrder.lean, one update and histories (`step_eq`, `run`, `flags`, `run_reference`)
  in Lemmas/NNDVIStep.lean.  The adjacency matrix is an *input* of the model (sklearn's search),
  validated by the executable predicate `isKnnRelation`; `isKnn_iff` says the predicate *is* the
  k-NN relation with self-inclusion, ties free.  That sklearn's answer passes is checked per case
  by the correspondence check, not proved.  The predicate and the NNDVI decision hold on every
  carrier, no law used — in particular at the executed `Float` instance; pool and membership are
  over linear orders (NaN coordinates are not modelled); the statements about the distance are over
  ordered fields (`dist_self`, `dist_same_set` for every matrix, `dist_range` and `dist_symm` under the
  length conditions their docstrings give); `build_denominators_pos` (each point is its own neighbour
  and belongs to a sample) shows separately that for a built partition no summand is a `x / 0 = 0`.

  The threshold is `norm.ppf(1 - alpha) * std + mu`, defined for every list of re-assignment
  distances (also when they all coincide, std = 0, where `norm.ppf(1 - alpha, mu, 0)` would be NaN
  and this is their mean), so `nndvi_drift_iff` carries no definedness side condition;
  `threshold_zero_spread` (`Props/C10Real.lean`) records that case over ℝ.
-/
import MenelausVerif.Model.NNSP
import MenelausVerif.Lemmas.NNSPOrder
import MenelausVerif.Lemmas.NNSPDist
import MenelausVerif.Lemmas.NNSPKnn
import MenelausVerif.Lemmas.NNDVIStep
import Mathlib.Data.List.Perm.Subperm
import Mathlib.Data.List.Count
namespace MV.NNSP

example : (parts [[2], [0], [2], [1]] [[1], [5]] : Parts Nat).pool = [[0], [1], [2], [5]] ∧
    (parts [[2], [0], [2], [1]] [[1], [5]] : Parts Nat).v1 = [true, true, true, false] ∧
    (parts [[2], [0], [2], [1]] [[1], [5]] : Parts Nat).v2 = [false, true, false, true] := by decide

/-- when every row of the adjacency matrix has `k ≥ 1` ones (as a k-NN graph has), the
    weights are all 1: `nnps_matrix = adjacency_matrix` -/
theorem weights_uniform (adj : List (List Bool)) (k : Nat) (hk : 0 < k)
    (h : ∀ row ∈ adj, row.count true = k) :
    nnpsMatrix adj = adj.map (fun row => row.map (fun b => if b then 1 else 0)) := by
  rw [nnpsMatrix_rows]
  apply List.map_congr_left
  intro row hrow
  have hq : lcmAll (adj.map (·.count true)) = k := by
    unfold lcmAll
    rw [foldl_lcm_const k _ (fun w hw => by
      obtain ⟨r, hr, rfl⟩ := List.mem_map.mp hw
      exact h r hr)]
    simp [List.ne_nil_of_mem hrow]
  simp only [hq, h row hrow, Nat.div_self hk, Nat.one_mul]

example : nnpsMatrix [[true, true, false], [false, true, true], [true, false, true]] =
    [[1, 1, 0], [0, 1, 1], [1, 0, 1]] := by decide

/-- non-uniform row sums (not a k-NN graph) are normalised by lcm / row sum -/
example : nnpsMatrix [[true, true, false], [false, true, false], [true, true, true]] =
    [[3, 3, 0], [0, 6, 0], [2, 2, 2]] := by decide

section Knn
variable {α : Type} [LT α] [DecidableLT α] [Add α] [Sub α] [Mul α] [NatCast α]

/-- The validation predicate is exactly the k-nearest-neighbour relation with self-inclusion:
    `adj` is a square 0/1 matrix over the pool, every row has exactly `k` ones, every point is
    its own neighbour, and no excluded point is strictly closer (squared Euclidean distance)
    than an included one — ties may be broken either way.  No law of the carrier is used. -/
theorem isKnn_iff (D : List (Row α)) (k : Nat) (adj : List (List Bool)) :
    isKnnRelation D k adj = true ↔
    (adj.length = D.length ∧
     ∀ i (hi : i < D.length) (hi' : i < adj.length),
      adj[i].length = D.length ∧ adj[i].count true = k ∧ adj[i].getD i false = true ∧
      ∀ j l (hj : j < D.length) (hl : l < D.length), adj[i].getD j false = true → adj[i].getD l false = false →
        ¬ sqDist D[i] D[l] < sqDist D[i] D[j]) := by
  unfold isKnnRelation
  simp only [Bool.and_eq_true, beq_iff_eq, List.all_eq_true, rowOk_iff]
  refine and_congr_right fun hlen => ⟨fun hall i hi hi' => ?_, fun h x hx => ?_⟩
  · refine hall ((D[i], adj[i]), i) ?_
    rw [List.mem_zipIdx_iff_getElem?, List.getElem?_zip_eq_some]
    simp [hi, hi']
  · rw [List.mem_zipIdx_iff_getElem?, List.getElem?_zip_eq_some] at hx
    obtain ⟨hi, h1⟩ := List.getElem?_eq_some_iff.mp hx.1
    obtain ⟨hi', h2⟩ := List.getElem?_eq_some_iff.mp hx.2
    rw [← h1, ← h2]
    exact h x.2 hi hi'

example : isKnnRelation ([[0], [1], [3]] : List (Row Int)) 2
    [[true, true, false], [true, true, false], [false, true, true]] = true := by decide

/-- a row that prefers a farther point is rejected -/
example : isKnnRelation ([[0], [1], [3]] : List (Row Int)) 2
    [[true, false, true], [true, true, false], [false, true, true]] = false := by decide

theorem nnps_row_length (D : List (Row α)) (k : Nat) (adj : List (List Bool)) (hok : isKnnRelation D k adj = true) :
    ∀ row ∈ nnpsMatrix adj, row.length = D.length := by
  obtain ⟨hlen, hrows⟩ := (isKnn_iff D k adj).mp hok
  rw [nnpsMatrix_rows]
  intro row hr
  obtain ⟨r, hr', rfl⟩ := List.mem_map.mp hr
  obtain ⟨i, hi, rfl⟩ := List.getElem_of_mem hr'
  rw [List.length_map]
  exact (hrows i (hlen ▸ hi) hi).1

theorem ncols_nnps (D : List (Row α)) (k : Nat) (adj : List (List Bool)) (hok : isKnnRelation D k adj = true) :
    ncols (nnpsMatrix adj) = D.length := by
  unfold ncols
  cases h : nnpsMatrix adj with
  | nil =>
    rw [nnpsMatrix_rows, List.map_eq_nil_iff] at h
    rw [← ((isKnn_iff D k adj).mp hok).1, h]
    rfl
  | cons r rs => exact nnps_row_length D k adj hok r (h ▸ List.mem_cons_self)

/-- no denominator of the distance vanishes: each pooled point is its own neighbour and is
    marked in at least one membership vector -/
theorem denominators_pos (D : List (Row α)) (k : Nat) (hk : 0 < k) (adj : List (List Bool))
    (hok : isKnnRelation D k adj = true) (v1 v2 : List Bool) (j : Nat) (hj : j < D.length)
    (hc : v1.getD j false = true ∨ v2.getD j false = true) :
    0 < (vecMat v1 (nnpsMatrix adj) (ncols (nnpsMatrix adj))).getD j 0 +
        (vecMat v2 (nnpsMatrix adj) (ncols (nnpsMatrix adj))).getD j 0 := by
  obtain ⟨hlen, hrows⟩ := (isKnn_iff D k adj).mp hok
  have hj' : j < adj.length := hlen ▸ hj
  have hM := weights_uniform adj k hk fun row hr => by
    obtain ⟨i, hi, rfl⟩ := List.getElem_of_mem hr
    exact (hrows i (hlen ▸ hi) hi).2.1
  -- row `j` of the matrix is row `j` of the graph, whose entry `j` is set
  have hMj : (nnpsMatrix adj)[j]? = some (adj[j].map (fun b => if b then 1 else 0)) := by
    rw [hM, List.getElem?_map, List.getElem?_eq_getElem hj']; rfl
  have hjj : (adj[j].map (fun b => if b then (1 : Nat) else 0)).getD j 0 = 1 := by
    simp [List.getD_eq_getElem?_getD, List.getElem?_map, getElem?_of_getD_true _ j (hrows j hj hj').2.2.1]
  have hge : ∀ v : List Bool, v.getD j false = true → 1 ≤ colSum v (nnpsMatrix adj) j := fun v hv =>
    hjj ▸ colSum_ge v (nnpsMatrix adj) j j hv _ hMj
  have hrl := nnps_row_length D k adj hok
  rw [ncols_nnps D k adj hok, vecMat_spec _ _ _ hrl j hj, vecMat_spec _ _ _ hrl j hj]
  exact hc.elim (fun h => Nat.add_pos_left (hge v1 h) _) fun h => Nat.add_pos_right _ (hge v2 h)

theorem build_some {k : Nat} {s1 s2 : List (Row α)} {adj : List (List Bool)} {b : Built α}
    (h : build k s1 s2 adj = some b) :
    0 < k ∧ k ≤ (parts s1 s2).pool.length ∧
    b = { pool := (parts s1 s2).pool, v1 := (parts s1 s2).v1, v2 := (parts s1 s2).v2, adj := adj,
          knnOk := isKnnRelation (parts s1 s2).pool k adj, nnps := nnpsMatrix adj } := by
  simp only [build] at h
  split at h
  · exact absurd h (by simp)
  · next hn =>
    exact ⟨Nat.pos_of_ne_zero fun h0 => hn (.inl h0), Nat.le_of_not_lt fun hlt => hn (.inr hlt),
      (Option.some.inj h).symm⟩

end Knn

section Denominators
variable {α : Type} [LinearOrder α] [Add α] [Sub α] [Mul α] [NatCast α]

/-- for a partition built from a valid k-NN graph none of the first |D| denominators of the distance
    vanishes (that the sum has exactly |D| terms is not shown: `vecMat_length_le` gives `≤`) -/
theorem build_denominators_pos (k : Nat) (s1 s2 : List (Row α)) (adj : List (List Bool)) (b : Built α)
    (hb : build k s1 s2 adj = some b) (hok : b.knnOk = true) (j : Nat) (hj : j < b.pool.length) :
    0 < (vecMat b.v1 b.nnps (ncols b.nnps)).getD j 0 + (vecMat b.v2 b.nnps (ncols b.nnps)).getD j 0 := by
  obtain ⟨hk, _, rfl⟩ := build_some hb
  exact denominators_pos (parts s1 s2).pool k hk adj hok (parts s1 s2).v1 (parts s1 s2).v2 j hj (cover s1 s2 j hj)

end Denominators

section Distance
variable {K : Type} [Field K] [LinearOrder K] [IsStrictOrderedRing K]

/-- the distance lies in [0, 1] whenever the matrix is not wider than the membership vectors
    (for a built partition both are |D|) -/
theorem dist_range (M : List (List Nat)) (v1 v2 : List Bool) (h : ncols M ≤ v1.length) :
    (0 : K) ≤ nnpsDistance M v1 v2 ∧ (nnpsDistance M v1 v2 : K) ≤ 1 := by
  rw [nnpsDistance_eq]
  obtain ⟨h0, h1⟩ := termSum_bounds (K := K) (vecMat v1 M (ncols M)) (vecMat v2 M (ncols M))
  have hn : (0 : K) ≤ (v1.length : K) := Nat.cast_nonneg _
  exact ⟨div_nonneg h0 hn,
    div_le_one_of_le₀ (h1.trans (Nat.cast_le.2 ((vecMat_length_le v1 M (ncols M)).trans h))) hn⟩

theorem dist_symm (M : List (List Nat)) (v1 v2 : List Bool) (h : v1.length = v2.length) :
    (nnpsDistance M v1 v2 : K) = nnpsDistance M v2 v1 := by
  rw [nnpsDistance_eq, nnpsDistance_eq, zipWith_term_comm, h]

theorem dist_self (M : List (List Nat)) (v : List Bool) : (nnpsDistance M v v : K) = 0 := by
  rw [nnpsDistance_eq, sum_zipWith_term_self, zero_div]

/-- two samples with the same *set* of points (any multiplicities, any order, any sizes) are at distance 0 -/
theorem dist_same_set (s1 s2 : List (Row K)) (hset : ∀ x, x ∈ s1 ↔ x ∈ s2) (M : List (List Nat)) :
    (nnpsDistance M (parts s1 s2).v1 (parts s1 s2).v2 : K) = 0 := by
  have : (parts s1 s2).v1 = (parts s1 s2).v2 := by
    rw [v1_exact, v2_exact]
    exact List.map_congr_left fun p _ => decide_eq_decide.mpr (hset p)
  rw [this]; exact dist_self M _

/-- for a partition built from a valid k-NN graph the distance lies in [0, 1] and is symmetric in
    the two samples: both membership vectors and the matrix have size |D| -/
theorem build_dist_range (k : Nat) (s1 s2 : List (Row K)) (adj : List (List Bool)) (b : Built K)
    (hb : build k s1 s2 adj = some b) (hok : b.knnOk = true) :
    (0 : K) ≤ nnpsDistance b.nnps b.v1 b.v2 ∧ (nnpsDistance b.nnps b.v1 b.v2 : K) ≤ 1 ∧
    (nnpsDistance b.nnps b.v1 b.v2 : K) = nnpsDistance b.nnps b.v2 b.v1 := by
  obtain ⟨_, _, rfl⟩ := build_some hb
  have hl1 : (parts s1 s2).v1.length = (parts s1 s2).pool.length := by rw [v1_exact]; simp
  have hl2 : (parts s1 s2).v2.length = (parts s1 s2).pool.length := by rw [v2_exact]; simp
  have hc : ncols (nnpsMatrix adj) ≤ (parts s1 s2).v1.length := by
    rw [hl1]; exact (ncols_nnps (parts s1 s2).pool k adj hok).le
  exact ⟨(dist_range _ _ _ hc).1, (dist_range _ _ _ hc).2, dist_symm _ _ _ (by rw [hl1, hl2])⟩

/-- a concrete distance: D = {0,1,2,3}, k = 2, s1 = {0,1}, s2 = {2,3} -/
example : (nnpsDistance [[1, 1, 0, 0], [1, 1, 0, 0], [0, 0, 1, 1], [0, 0, 1, 1]]
    [true, true, false, false] [false, false, true, true] : ℚ) = 1 := by
  decide +kernel

example : (nnpsDistance [[1, 1, 0, 0], [0, 1, 1, 0], [0, 1, 1, 0], [0, 0, 1, 1]]
    [true, true, false, false] [false, true, true, true] : ℚ) = 5 / 8 := by
  decide +kernel

end Distance

end MV.NNSP

namespace MV.NNDVI
open MV MV.NNSP

section Threshold
variable {α : Type} [Add α] [Sub α] [Mul α] [Div α] [NatCast α] [HasSqrt α]

/-- the threshold is `z·std + mean` of the re-assignment distances (the code's operation order),
    for every list of distances -/
theorem threshold_def (z : α) (ds : List α) : threshold z ds = z * stdPop ds + mean ds := rfl

end Threshold

section Lifecycle
variable {α : Type} [LT α] [DecidableLT α] [Add α] [Sub α] [Mul α] [Div α] [Neg α] [NatCast α] [HasSqrt α]

/-- NNDVI reports drift for a batch exactly when the batch is accepted and the distance between
    reference and batch strictly exceeds the threshold fitted to the re-assignment distances.
    `hs` is not used: the equivalence holds from any state (`step_drift_iff`, `alarm_iff`); `none`
    and `drift` are the only states NNDVI ever has (`step_state_range`). -/
theorem nndvi_drift_iff (c : Cfg α) (s : State α) (X : List (Row α)) (adj : List (List Bool))
    (perms : List (List Nat)) (hs : s.drift ≠ .warning) :
    (step c s X adj perms).1.drift = .drift ↔
      ∃ ref b, s.reference = some ref ∧ build c.k ref X adj = some b ∧
        threshold c.z (perms.map (shuffleDist b.nnps b.v1)) < nnpsDistance b.nnps b.v1 b.v2 :=
  (step_drift_iff c s X adj perms).trans (alarm_iff c s.reference X adj perms)

/-- on drift the test batch becomes the reference, otherwise the reference is kept
    (`step_reference`, which needs no `hs`) -/
theorem reference_replaced_iff_drift (c : Cfg α) (s : State α) (X : List (Row α)) (adj : List (List Bool))
    (perms : List (List Nat)) (hs : s.drift ≠ .warning) :
    (step c s X adj perms).1.reference =
      if (step c s X adj perms).1.drift = .drift then some X else s.reference :=
  step_reference c s X adj perms

end Lifecycle

section Draws
variable {α : Type} [LT α] [DecidableLT α] [Add α] [Sub α] [Div α] [Neg α] [NatCast α]

/-- well-formed draws (what the driver checks before it answers): the threshold is fitted to exactly
    `sampling_times` re-assignment distances, each from a permutation of the pool indices -/
theorem draws_count (c : Cfg α) (s : State α) (X : List (Row α)) (perms : List (List Nat)) (ref : List (Row α))
    (href : s.reference = some ref) (h : drawsOk c s X perms = true) :
    (∀ (M : List (List Nat)) (v : List Bool), (perms.map (shuffleDist (α := α) M v)).length = c.samplingTimes) ∧
    ∀ π ∈ perms, isPerm (parts ref X).pool.length π = true := by
  unfold drawsOk at h
  simp only [href, Bool.and_eq_true, beq_iff_eq, List.all_eq_true] at h
  exact ⟨fun _ _ => by simp [h.1], h.2⟩

end Draws

/-- a drawn index permutation re-assigns the pooled points: the shuffled first sample has as
    many points as the reference sample and the shuffled second sample is its complement -/
theorem shuffle_reassigns (v : List Bool) (π : List Nat) (h : isPerm v.length π = true) :
    (permute v π).length = v.length ∧ (permute v π).count true = v.count true ∧
    ((permute v π).map (!·)).count true = v.count false := by
  unfold isPerm at h
  simp only [Bool.and_eq_true, beq_iff_eq, List.all_eq_true, List.mem_range, List.contains_iff_mem] at h
  obtain ⟨hlen, hall⟩ := h
  have hperm : (List.range v.length).Perm π :=
    (List.nodup_range.subperm (fun i hi => hall i (List.mem_range.mp hi))).perm_of_length_le (by simp [hlen])
  have hv : (List.range v.length).map (fun i => v.getD i false) = v := by
    apply List.ext_getElem
    · simp
    · intro i h1 h2
      simp [List.getD_eq_getElem?_getD, List.getElem?_eq_getElem h2]
  have hp : v.Perm (permute v π) := by
    unfold permute
    have := hperm.map (fun i => v.getD i false)
    rwa [hv] at this
  exact ⟨by simp [permute, hlen], (hp.count_eq true).symm,
    (List.count_map_of_injective _ _ (fun _ _ => Bool.not_inj) false).trans (hp.count_eq false).symm⟩

example : isPerm 4 [2, 0, 3, 1] = true ∧ permute [true, true, false, false] [2, 0, 3, 1] = [false, true, false, true] := by
  decide

/- non-vacuity of `nndvi_drift_iff` in both directions, at ℚ with a stand-in square root:
   reference {0,1}, batch {2,3} (k = 2): distance 1, re-assignment distances 0 and 1 -/
section Demo
local instance : HasSqrt ℚ := ⟨fun x => x⟩   -- any function will do for an example: std = variance here

def demoCfg : Cfg ℚ := { k := 2, samplingTimes := 2, z := 1 }
def demoAdj : List (List Bool) :=
  [[true, true, false, false], [true, true, false, false], [false, false, true, true], [false, false, true, true]]
def demoState : State ℚ := setReference init [[0], [1]]

example : (step demoCfg demoState [[2], [3]] demoAdj [[0, 1, 2, 3], [0, 2, 1, 3]]).1.drift = .drift ∧
    (step demoCfg demoState [[2], [3]] demoAdj [[0, 1, 2, 3], [0, 2, 1, 3]]).1.reference = some [[2], [3]] := by
  decide +kernel

example : (step demoCfg demoState [[0], [1], [1]] [[true, true], [true, true]] [[0, 1], [1, 0]]).1.drift = .none ∧
    (step demoCfg demoState [[0], [1], [1]] [[true, true], [true, true]] [[0, 1], [1, 0]]).1.reference = some [[0], [1]] := by
  decide +kernel

end Demo

end MV.NNDVI
