/-
  C01 — non-vacuity.  Section `Examples`, for `Props/C01Models.lean`: per detector model a concrete trace
  with a drift (some with a preceding warning) and the restart on the update that follows,
  `(drift_state, samples_since_reset)` per row.  The configurations and inputs are the worked examples
  of the detectors' own property files (Page-Hinkley's is given inline).  The `_accepted` theorems have
  no hypothesis other than ADWIN's `1 ≤ subThresh`, which `Adwin.cfgEx` meets.  Namespace `MoreEx`, for
  `Props/C01More.lean`: histories that meet the hypotheses of its theorems.
-/
import MenelausVerif.Props.C01Models
import MenelausVerif.Props.C01More
import MenelausVerif.Props.C03
import MenelausVerif.Props.C04
import MenelausVerif.Props.C05Examples
import MenelausVerif.Props.C06
import MenelausVerif.Props.C09Examples
import MenelausVerif.Props.C10
import MenelausVerif.Props.C11
import MenelausVerif.Props.C19
namespace MV.Lifecycle
open MV

section Examples
local instance : HasSqrt ℚ := ⟨fun x => x⟩
local instance : HasLogExp ℚ := ⟨fun _ => 1, fun _ => 1⟩
local instance : LFR.HasRound Int := ⟨Int.toNat, id⟩

/-- what the examples show of a trace -/
def view (os : List Obs) : List (Drift × Nat) := os.map (fun o => (o.drift, o.since))

example : view (rowsOf (fun s x => (PH.step (⟨0, 1, 1, .positive⟩ : PH.Cfg ℚ) s x).1) phRow PH.init [0, 0, 5, 0]) =
    [(.none, 1), (.none, 2), (.drift, 3), (.none, 1)] := by decide +kernel
example : view (rowsOf (DDM.step C05Examples.cd) ddmRow DDM.init [true, false, false, false, true, true]) =
    [(.none, 1), (.warning, 2), (.warning, 3), (.warning, 4), (.drift, 5), (.none, 1)] := by decide +kernel
example : (view (rowsOf (EDDM.step C05Examples.ce) eddmRow EDDM.init (C05Examples.xe ++ [false]))).drop 7 =
    [(.none, 8), (.warning, 9), (.warning, 10), (.drift, 11), (.none, 1)] := by decide +kernel
example : (view (rowsOf (STEPD.step C05Examples.cs) stepdRow STEPD.init C05Examples.xs)).drop 4 =
    [(.none, 5), (.warning, 6), (.drift, 7), (.none, 1), (.none, 2), (.none, 3), (.none, 4), (.none, 5), (.none, 6),
     (.drift, 7)] := by decide +kernel
example : view (rowsOf (fun s x => (Cusum.step Cusum.exKnown s x).1) cusumRow (Cusum.init Cusum.exKnown) [0, 0, 3, 4]) =
    [(.none, 1), (.none, 2), (.drift, 3), (.none, 1)] := by decide +kernel
example : Adwin.cfgEx.subThresh = 1 ∧
    (rowsOf (adwinStepL Adwin.cfgEx) adwinRow adwinInitL [0, 0, 0, 0, 8, 8]).map (fun o => (o.drift, o.since, o.recs)) =
    [(.none, 1, none, none), (.none, 2, none, none), (.none, 3, none, none), (.none, 4, none, none),
     (.drift, 5, some 4, some 4), (.none, 1, none, none)] := by decide +kernel
/-- LFR with `burn_in = 1`: silent at `since = 1`, drift at 2, restart, drift again (cached bounds) -/
example : view (rowsOf (lfrStep LFR.cI2) lfrRow LFR.init
      [⟨true, true, [[[true, true, false]]]⟩, ⟨true, true, [[[true, true, true, true]], [[true, true, true, true]]]⟩,
       ⟨true, true, []⟩, ⟨true, true, [[[true, true, true]]]⟩]) =
    [(.none, 1), (.drift, 2), (.none, 1), (.drift, 2)] := by decide +kernel
example : view (rowsOf (nndviStep NNDVI.demoCfg) nndviRow (nndviInit (some [[0], [1]]))
      [([[2], [3]], NNDVI.demoAdj, [[0, 1, 2, 3], [0, 2, 1, 3]]), ([[2], [3]], NNDVI.demoAdj, [[0, 1, 2, 3], [0, 2, 1, 3]])]) =
    [(.drift, 1), (.none, 1)] := by decide +kernel
/-- MD3: nine calls (four of them refused), three accepted updates, the second answered by a drift -/
example : view (md3Rows MD3.exCfg (MD3.init MD3.exCfg MD3.exRef) false MD3.exOps) =
    [(.none, 1), (.drift, 2), (.warning, 1)] := by decide +kernel
example : view (rowsOf (pcacdStep PCACD.exCfg) pcacdRow PCACD.init
      (PCACD.exInputs ++ [(5, ({} : PCACD.Oracle Int)), (6, { numPcs := 2 }), (7, { js := [5] })])) =
    [(.none, 1), (.none, 2), (.none, 3), (.drift, 4), (.none, 0), (.none, 1), (.none, 2)] := by decide +kernel

end Examples

/-! Non-vacuity: per detector a concrete accepted history — `(drift_state, total, since, refDone)`
    per row — satisfying the hypotheses of the theorems of `Props/C01More.lean` (computable toy carriers;
    the theorems hold for every carrier).  The kdq configurations and inputs `exS`, `exIn`, `exB` and the instances
    `HasLogExp ℚ`, `HasRint ℚ` they compute with are those of `Props/C09Examples.lean`; the HDM
    ones, at `Int`, are declared here. -/
namespace MoreEx
open MV.KdqDet MV.HDM

def viewRows (os : List Obs) : List (Drift × Nat × Nat × Bool) := os.map (fun o => (o.drift, o.total, o.since, o.refDone))

/-- KdqTreeStreaming, window 2: reference built on the 2nd sample (`since` restarts at 0), a drift after
    two exceeding evaluations, restart at 1, the next reference built on the 2nd sample of the new epoch -/
example : (rowsOfOpt (kdqSStepL exS) (kdqSRow exS) kdqSInitL (exIn ++ [([0], [[0, 1, 0, 1]]), ([0], [])])).map viewRows =
    some [(.none, 1, 1, false), (.none, 2, 0, true), (.none, 3, 1, false), (.none, 4, 2, false),
          (.drift, 5, 3, false), (.none, 6, 1, false), (.none, 7, 0, true), (.none, 8, 1, false)] := by
  decide +kernel

/-- KdqTreeBatch without `set_reference`: the first update builds the reference, the second drifts, the
    third restarts at 1 (tree rebuilt from the drifted batch) -/
example : (kdqBStart exB none).bind (fun s0 => (rowsOfOpt (kdqBStepL exB) (kdqBRow true) s0
      [(1, [[0], [1]], [[0, 1, 0, 1]]), (1, [[0], [0]], []), (1, [[0], [0]], [[0, 0, 0, 0]]), (1, [[0], [0]], [])]).map viewRows) =
    some [(.none, 1, 0, true), (.drift, 2, 1, false), (.none, 3, 1, false), (.none, 4, 2, false)] := by
  decide +kernel

/-- KdqTreeBatch after `set_reference`: drift on the first update, restart -/
example : (kdqBStart exB (some (1, [[0], [1]], [[0, 1, 0, 1]]))).bind (fun s0 =>
      (rowsOfOpt (kdqBStepL exB) (kdqBRow false) s0
        [(1, [[0], [0]], []), (1, [[0], [0]], [[0, 0, 0, 0]]), (1, [[0], [0]], [])]).map viewRows) =
    some [(.drift, 1, 1, false), (.none, 2, 1, false), (.none, 3, 2, false)] := by
  decide +kernel

local instance : HasSqrt Int := ⟨id⟩
local instance : HasLogExp Int := ⟨id, id⟩
local instance : HDM.HasLog1p Int := ⟨id⟩
local instance : HDM.HasTrunc Int := ⟨Int.toNat⟩

/-- toy HDM at `Int`: the user divergence is the number of batch rows in the first bin -/
def exHdm (detectBatch : Nat) : HDM.Cfg Int :=
  { div := .user (fun _ t => ((t.headD 0 : Nat) : Int)), detectBatch := detectBatch, stat := .stdev, signif := 0 }
def exO : HDM.Oracle Int := { eps0 := 0, tcrit := 0 }
def exA : List (List Int) := [[0], [4], [0], [4]]
def exB' : List (List Int) := [[0], [0], [0], [4]]
def exHdmIn : List (HdmIn Int) := [(exA, exO), (exB', exO), (exA, exO), (exB', exO), (exB', exO), (exA, exO), (exA, exO)]

/-- rows of `set_reference(A ++ A)` followed by the seven updates -/
def exHdmRows (db : Nat) : Option (List Obs) :=
  (setReference (exHdm db) exO HDM.init (exA ++ exA)).bind (fun s0 => rowsOfOpt (hdmStep (exHdm db)) hdmRow s0 exHdmIn)

/-- `detect_batch = 1`: the acceptor starts at `init 1 1`; drifts on the first real batch of an epoch
    (`since = 2`), twice back to back; after each the counters restart at 2 / grow by 2 -/
example : (exHdmRows 1).map viewRows =
    some [(.none, 2, 2, false), (.drift, 3, 3, false), (.none, 5, 2, false), (.drift, 6, 3, false),
          (.drift, 8, 2, false), (.none, 10, 2, false), (.none, 11, 3, false)] := by decide +kernel

/-- `detect_batch = 2`: drift on the second batch of every epoch, restart at 1 -/
example : (exHdmRows 2).map viewRows =
    some [(.none, 1, 1, false), (.drift, 2, 2, false), (.none, 3, 1, false), (.drift, 4, 2, false),
          (.none, 5, 1, false), (.drift, 6, 2, false), (.none, 7, 1, false)] := by decide +kernel

/-- `detect_batch = 3`: nothing before the third batch of an epoch -/
example : (exHdmRows 3).map viewRows =
    some [(.none, 1, 1, false), (.none, 2, 2, false), (.drift, 3, 3, false), (.none, 4, 1, false),
          (.none, 5, 2, false), (.drift, 6, 3, false), (.none, 7, 1, false)] := by decide +kernel

/-- the conclusion of `hdm_accepted` on these histories, computed -/
example : ((exHdmRows 1).map (accept (hdmCfg (exHdm 1)) (hdmMon0 (exHdm 1)) 0)) = some none ∧
    ((exHdmRows 3).map (accept (hdmCfg (exHdm 3)) (hdmMon0 (exHdm 3)) 0)) = some none := by decide +kernel

/-- the hypothesis `detect_batch ≤ 3` of `hdm_accepted` cannot be dropped: an (undocumented)
    `detect_batch = 4` tests from the second batch on, before "the `detect_batch`-th batch" -/
example : ((exHdmRows 4).map (accept (hdmCfg (exHdm 4)) (hdmMon0 (exHdm 4)) 0)) = some (some (1, "warmup")) := by
  decide +kernel

/-- … and the acceptor is not trivially accepting for these kinds: a streaming row that claims a drift
    while the reference window is still filling is rejected -/
example : accept (kdqSCfg exS) {} 0
    [{ drift := .drift, total := 1, since := 1, recs := (none, none), err := false, refDone := false }] =
    some (0, "warmup") := by decide

end MoreEx
end MV.Lifecycle
