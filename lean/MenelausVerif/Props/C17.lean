/-
  C17 — a stricter confidence setting never makes a detector report its first drift earlier.
  Generic part: two routes from one update to whole runs.
  * Route 1, `Sys` / `decisions` / `first_drift_eq`: "the detector's first drift is the first alarm of a system
    whose statistics do not read the threshold", a statement in its own right (it says what the threshold
    can influence at all); with an antitone decision it gives monotonicity (`first_alarm_mono(_on)`).  It
    exists only where the pre-alarm state is threshold-free.  `lag` is the system for detectors whose
    decision reads intermediate values of the update, i.e. the statistics before the latest input and that
    input (`lag_first_drift_eq`, `lag_alarm_mono`).
  * Route 2, `sim_first_drift_mono`: a relation between the looser and the stricter run, kept by every pair
    of steps as long as the *looser* run does not report drift, under which a drift of the stricter run
    forces one of the looser run.  It always suffices for monotonicity (route 1's is the case `R := Eq`) and
    is the only way where the pre-alarm state depends on the threshold (kdq-tree's critical value and
    persistence counter, LFR's bounds cache, HDM's recorded β) or the two runs consume different oracle
    inputs (HDM `tstat`).  State types, input types (related position by position through `Zip Q`) and step
    functions of the two runs may differ.  For a new detector: route 2.
  Both rest on one fact about `firstIdx` and `NoLater`, `noLater_cons`.
-/
import MenelausVerif.Base.Drift

namespace MV.Mono

def firstIdx : List Bool → Option Nat
  | [] => none
  | true :: _ => some 0
  | false :: bs => (firstIdx bs).map (· + 1)

/-- `a` is no later than `b` (with `none` = never) -/
def NoLater : Option Nat → Option Nat → Prop
  | _, none => True
  | none, some _ => False
  | some i, some j => i ≤ j

theorem noLater_zero : ∀ b : Option Nat, NoLater (some 0) b
  | none => trivial
  | some _ => Nat.zero_le _

theorem noLater_succ : ∀ {a b : Option Nat}, NoLater a b → NoLater (a.map (· + 1)) (b.map (· + 1))
  | _, none, _ => trivial
  | none, some _, h => h
  | some _, some _, h => Nat.succ_le_succ h

/-- The only fact about `firstIdx` and `NoLater` the monotonicity arguments use: the first trace may alarm
now; if it does not, the second does not either and the tails decide. -/
theorem noLater_cons {a b : Bool} {as bs : List Bool} (hba : b = true → a = true)
    (ht : a = false → NoLater (firstIdx as) (firstIdx bs)) :
    NoLater (firstIdx (a :: as)) (firstIdx (b :: bs)) := by
  cases a with
  | true => exact noLater_zero _
  | false =>
    cases b with
    | true => cases hba rfl
    | false => exact noLater_succ (ht rfl)

example : firstIdx [false, false, true, true] = some 2 := by decide

/-- a detector up to its first alarm -/
structure Sys (Θ σ ι : Type) where
  init : σ
  stat : σ → ι → σ
  dec : Θ → σ → Bool

/-- the same recursion as `driftTrace S.stat (S.dec θ)` below -/
def decisions {Θ σ ι : Type} (S : Sys Θ σ ι) (θ : Θ) : σ → List ι → List Bool
  | _, [] => []
  | s, x :: xs => S.dec θ (S.stat s x) :: decisions S θ (S.stat s x) xs

def firstAlarm {Θ σ ι : Type} (S : Sys Θ σ ι) (θ : Θ) (xs : List ι) : Option Nat :=
  firstIdx (decisions S θ S.init xs)

/-- `P` need only hold of the states actually visited (Page-Hinkley: "all running means are
non-negative"). -/
theorem first_alarm_mono_on {Θ σ ι : Type} (S : Sys Θ σ ι) (loose strict : Θ) (P : σ → Prop)
    (hanti : ∀ s, P s → S.dec strict s = true → S.dec loose s = true) :
    ∀ (s : σ) (xs : List ι), (∀ k, k < xs.length → P ((xs.take (k + 1)).foldl S.stat s)) →
      NoLater (firstIdx (decisions S loose s xs)) (firstIdx (decisions S strict s xs)) := by
  intro s xs
  induction xs generalizing s with
  | nil => intro _; trivial
  | cons x xs ih =>
    intro hP
    exact noLater_cons (hanti _ (hP 0 (Nat.succ_pos _)))
      fun _ => ih _ fun k hk => hP (k + 1) (Nat.succ_lt_succ hk)

theorem first_alarm_mono {Θ σ ι : Type} (S : Sys Θ σ ι) (loose strict : Θ)
    (hanti : ∀ s, S.dec strict s = true → S.dec loose s = true) (xs : List ι) :
    NoLater (firstAlarm S loose xs) (firstAlarm S strict xs) :=
  first_alarm_mono_on S loose strict (fun _ => True) (fun s _ h => hanti s h) S.init xs (fun _ _ => trivial)

/-- drift flags of an actual detector run (with its automatic resets) -/
def driftTrace {σ ι : Type} (step : σ → ι → σ) (isDrift : σ → Bool) : σ → List ι → List Bool
  | _, [] => []
  | s, x :: xs => isDrift (step s x) :: driftTrace step isDrift (step s x) xs

theorem driftTrace_map {σ ι κ : Type} (step : σ → ι → σ) (isDrift : σ → Bool) (f : κ → ι) :
    ∀ (s : σ) (ys : List κ),
      driftTrace (fun s y => step s (f y)) isDrift s ys = driftTrace step isDrift s (ys.map f)
  | _, [] => rfl
  | s, y :: ys => congrArg (_ :: ·) (driftTrace_map step isDrift f (step s (f y)) ys)

/-- `R` relates a detector state to the state of `S` that has seen the same inputs; it need only be kept
by updates from, and to, states that are not in drift. -/
theorem first_drift_eq {Θ σ σ' ι : Type} (step : σ → ι → σ) (isDrift : σ → Bool)
    (S : Sys Θ σ' ι) (θ : Θ) (R : σ → σ' → Prop)
    (hstep : ∀ s s' x, R s s' → isDrift s = false →
      isDrift (step s x) = S.dec θ (S.stat s' x) ∧
      (isDrift (step s x) = false → R (step s x) (S.stat s' x))) :
    ∀ (xs : List ι) (s : σ) (s' : σ'), R s s' → isDrift s = false →
      firstIdx (driftTrace step isDrift s xs) = firstIdx (decisions S θ s' xs) := by
  intro xs
  induction xs with
  | nil => intro s s' _ _; rfl
  | cons x xs ih =>
    intro s s' hR hd
    obtain ⟨h1, h2⟩ := hstep s s' x hR hd
    show firstIdx (isDrift (step s x) :: _) = firstIdx (S.dec θ (S.stat s' x) :: _)
    rw [← h1]
    cases hb : isDrift (step s x) with
    | true => rfl
    | false => exact congrArg (Option.map (· + 1)) (ih _ _ (h2 hb) hb)

section lag
variable {Θ σ σ' ι : Type}

/-- `stat` is the threshold-free update of the statistics, `dec θ p x` the alarm decision of the
update that feeds `x` to the statistics `p`.  `i` only fills `init`, which `firstAlarm` reads and
`decisions` does not: the three theorems below hold for every `i`. -/
def lag (i : σ') (stat : σ' → ι → σ') (dec : Θ → σ' → ι → Bool) : Sys Θ (σ' × Option ι) ι where
  init := (i, none)
  stat := fun p x => ((match p.2 with | none => p.1 | some y => stat p.1 y), some x)
  dec := fun θ p => match p.2 with | none => false | some x => dec θ p.1 x

/-- the statistics a state of `lag` stands for (what its `stat` computes first) -/
def cur (stat : σ' → ι → σ') (p : σ' × Option ι) : σ' :=
  match p.2 with | none => p.1 | some y => stat p.1 y

/-- `proj` maps a detector state to its statistics; `I` is an invariant of the detector states met
before the first drift. -/
theorem lag_first_drift_eq (step : σ → ι → σ) (isDrift : σ → Bool) (i : σ') (stat : σ' → ι → σ')
    (dec : Θ → σ' → ι → Bool) (θ : Θ) (proj : σ → σ') (I : σ → Prop)
    (h : ∀ s x, I s → isDrift s = false →
      isDrift (step s x) = dec θ (proj s) x ∧
      (isDrift (step s x) = false → proj (step s x) = stat (proj s) x ∧ I (step s x)))
    (xs : List ι) (s : σ) (hI : I s) (hd : isDrift s = false) :
    firstIdx (driftTrace step isDrift s xs)
      = firstIdx (decisions (lag i stat dec) θ (proj s, none) xs) := by
  refine first_drift_eq step isDrift (lag i stat dec) θ (fun s p => I s ∧ proj s = cur stat p) ?_
    xs s (proj s, none) ⟨hI, rfl⟩ hd
  rintro s p x ⟨hIs, hp⟩ hds
  obtain ⟨h1, h2⟩ := h s x hIs hds
  exact ⟨h1.trans (congrArg (fun q => dec θ q x) hp), fun hnd =>
    ⟨(h2 hnd).2, (h2 hnd).1.trans (congrArg (fun q => stat q x) hp)⟩⟩

/-- `P` is an invariant of the statistics run that the antitonicity of the decision may use (ADWIN:
the statistics are exact, so the variance is non-negative). -/
theorem lag_alarm_mono (i : σ') (stat : σ' → ι → σ') (dec : Θ → σ' → ι → Bool) (loose strict : Θ)
    (P : σ' → Prop) (hP : ∀ p x, P p → P (stat p x))
    (hanti : ∀ p x, P p → dec strict p x = true → dec loose p x = true)
    (p0 : σ') (hP0 : P p0) (xs : List ι) :
    NoLater (firstIdx (decisions (lag i stat dec) loose (p0, none) xs))
      (firstIdx (decisions (lag i stat dec) strict (p0, none) xs)) := by
  suffices h : ∀ (xs : List ι) (b : σ' × Option ι), P (cur stat b) →
      NoLater (firstIdx (decisions (lag i stat dec) loose b xs))
        (firstIdx (decisions (lag i stat dec) strict b xs)) from h xs (p0, none) hP0
  intro xs
  induction xs with
  | nil => intro _ _; trivial
  | cons x xs ih =>
    intro b hb
    exact noLater_cons (hanti _ x hb) fun _ => ih (cur stat b, some x) (hP _ x hb)

theorem lag_first_drift_mono (stepL stepS : σ → ι → σ) (isDrift : σ → Bool) (i : σ')
    (stat : σ' → ι → σ') (dec : Θ → σ' → ι → Bool) (loose strict : Θ) (proj : σ → σ')
    (I : σ → Prop) (P : σ' → Prop)
    (hL : ∀ s x, I s → isDrift s = false →
      isDrift (stepL s x) = dec loose (proj s) x ∧
      (isDrift (stepL s x) = false → proj (stepL s x) = stat (proj s) x ∧ I (stepL s x)))
    (hS : ∀ s x, I s → isDrift s = false →
      isDrift (stepS s x) = dec strict (proj s) x ∧
      (isDrift (stepS s x) = false → proj (stepS s x) = stat (proj s) x ∧ I (stepS s x)))
    (hP : ∀ p x, P p → P (stat p x))
    (hanti : ∀ p x, P p → dec strict p x = true → dec loose p x = true)
    (s : σ) (hI : I s) (hd : isDrift s = false) (hP0 : P (proj s)) (xs : List ι) :
    NoLater (firstIdx (driftTrace stepL isDrift s xs)) (firstIdx (driftTrace stepS isDrift s xs)) := by
  rw [lag_first_drift_eq stepL isDrift i stat dec loose proj I hL xs s hI hd,
    lag_first_drift_eq stepS isDrift i stat dec strict proj I hS xs s hI hd]
  exact lag_alarm_mono i stat dec loose strict P hP hanti (proj s) hP0 xs

end lag

/-- `List.Forall₂`, restated because that one needs Mathlib and this file imports none. -/
inductive Zip {ιL ιS : Type} (Q : ιL → ιS → Prop) : List ιL → List ιS → Prop
  | nil : Zip Q [] []
  | cons {x y xs ys} : Q x y → Zip Q xs ys → Zip Q (x :: xs) (y :: ys)

theorem Zip.refl {ι : Type} {Q : ι → ι → Prop} (h : ∀ x, Q x x) : ∀ xs : List ι, Zip Q xs xs
  | [] => Zip.nil
  | x :: xs => Zip.cons (h x) (Zip.refl h xs)

theorem Zip.append {ιL ιS : Type} {Q : ιL → ιS → Prop} {xs xs' : List ιL} {ys ys' : List ιS}
    (h : Zip Q xs ys) (h' : Zip Q xs' ys') : Zip Q (xs ++ xs') (ys ++ ys') := by
  induction h with
  | nil => exact h'
  | cons hq _ ih => exact Zip.cons hq ih

theorem Zip.of_getElem {ιL ιS : Type} {Q : ιL → ιS → Prop} : ∀ {xs : List ιL} {ys : List ιS},
    xs.length = ys.length → (∀ i (h1 : i < xs.length) (h2 : i < ys.length), Q xs[i] ys[i]) → Zip Q xs ys
  | [], [], _, _ => Zip.nil
  | [], _ :: _, hl, _ => nomatch hl
  | _ :: _, [], hl, _ => nomatch hl
  | _ :: _, _ :: _, hl, h =>
    Zip.cons (h 0 (Nat.succ_pos _) (Nat.succ_pos _))
      (Zip.of_getElem (Nat.succ.inj hl) fun i h1 h2 => h (i + 1) (Nat.succ_lt_succ h1) (Nat.succ_lt_succ h2))

/-- `L` is the run under the looser setting, `S` the one under the stricter. -/
theorem sim_first_drift_mono {σL σS ιL ιS : Type}
    (stepL : σL → ιL → σL) (stepS : σS → ιS → σS) (dL : σL → Bool) (dS : σS → Bool)
    (R : σL → σS → Prop) (Q : ιL → ιS → Prop)
    (h : ∀ a b x y, R a b → Q x y →
      (dS (stepS b y) = true → dL (stepL a x) = true) ∧
      (dL (stepL a x) = false → R (stepL a x) (stepS b y))) :
    ∀ (xs : List ιL) (ys : List ιS), Zip Q xs ys → ∀ (a : σL) (b : σS), R a b →
      NoLater (firstIdx (driftTrace stepL dL a xs)) (firstIdx (driftTrace stepS dS b ys)) := by
  intro xs ys hxy
  induction hxy with
  | nil => intro _ _ _; trivial
  | cons hq _ ih =>
    intro a b hR
    obtain ⟨h1, h2⟩ := h a b _ _ hR hq
    exact noLater_cons h1 fun ha => ih _ _ (h2 ha)

theorem sim_first_drift_mono_same {σL σS ι : Type}
    (stepL : σL → ι → σL) (stepS : σS → ι → σS) (dL : σL → Bool) (dS : σS → Bool)
    (R : σL → σS → Prop)
    (h : ∀ a b x, R a b →
      (dS (stepS b x) = true → dL (stepL a x) = true) ∧
      (dL (stepL a x) = false → R (stepL a x) (stepS b x)))
    (xs : List ι) (a : σL) (b : σS) (hR : R a b) :
    NoLater (firstIdx (driftTrace stepL dL a xs)) (firstIdx (driftTrace stepS dS b xs)) := by
  refine sim_first_drift_mono stepL stepS dL dS R (fun x y => x = y) ?_ xs xs ?_ a b hR
  · rintro a b x _ hR rfl; exact h a b x hR
  · exact Zip.refl (fun _ => rfl) xs

/-- What `sim_first_drift_mono` asks of a pair of updates when the stricter run stays quiet (drift state
`db`) and the states reached are related.  The instance files state it with their own `isD`. -/
theorem sim_of_quiet {σ τ : Type} {R : σ → τ → Prop} {a : σ} {b : τ} {da db : MV.Drift}
    (hq : db ≠ .drift) (h : R a b) :
    ((db == .drift) = true → (da == .drift) = true) ∧ ((da == .drift) = false → R a b) :=
  ⟨fun hb => absurd (beq_iff_eq.1 hb) hq, fun _ => h⟩

/-- positions up to the last one, so that the empty list needs no side condition -/
theorem getD_rel_of_pairwise {α : Type} {r : α → α → Prop} (hr : ∀ a, r a a) (l : List α)
    (hl : l.Pairwise r) (d : α) {i j : Nat} (hij : i ≤ j) (hj : j ≤ l.length - 1) :
    r (l.getD i d) (l.getD j d) := by
  rcases Nat.lt_or_eq_of_le hij with h | rfl
  · have hj' : j < l.length := by omega
    have e : ∀ k (hk : k < l.length), l.getD k d = l[k] := fun k hk => by
      rw [List.getD_eq_getElem?_getD, List.getElem?_eq_getElem hk, Option.getD_some]
    rw [e i (Nat.lt_trans h hj'), e j hj']
    exact List.pairwise_iff_getElem.mp hl i j _ hj' h
  · exact hr _

end MV.Mono
