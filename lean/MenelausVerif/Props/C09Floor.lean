/-
  C09 — the streaming persistence rule in whole samples.

  `Props/C09.lean` `stream_drift_iff` (every carrier): drift is reported exactly when the last update
  was an exceeding evaluation and `persistence * window_size < (length of the current uninterrupted
  run of exceeding evaluations)`.  The run length is a natural number, so over an ordered field with a
  floor (`ℚ`, `ℝ`) the comparison is the same as `⌊persistence * window_size⌋₊ < run`, i.e. the run
  has at least `⌊persistence * window_size⌋ + 1` samples: the bound is *floored*, never rounded
  (`persistence * window_size = 3.75` needs 4 samples in a row, not 5).
-/
import MenelausVerif.Props.C09
import Mathlib.Data.Rat.Floor
set_option linter.unusedSectionVars false

namespace MV.KdqDet
open MV MV.Kdq

section floor
variable {K : Type} [Field K] [LinearOrder K] [IsStrictOrderedRing K] [FloorSemiring K]

theorem counter_bound_iff_floor (x : K) (hx : 0 ≤ x) (n : Nat) : x < (n : K) ↔ Nat.floor x < n :=
  (Nat.floor_lt hx).symm

/-- a negative bound is exceeded by every counter, as by `⌊x⌋₊ = 0 < n` for `n ≥ 1`; at `n = 0`
    the two differ (`x < 0` holds, `0 < 0` does not): the model compares with `x`, so a negative
    persistence alarms on the first exceeding evaluation at the latest (the run is then ≥ 1 anyway) -/
theorem counter_bound_neg (x : K) (hx : x < 0) (n : Nat) : x < (n : K) :=
  lt_of_lt_of_le hx (Nat.cast_nonneg n)

variable [Inhabited K] [BEq K] [HasLogExp K] [HasRint K] [HasTrunc K]

/-- **streaming rule in whole samples**: for a non-negative persistence factor, drift is reported
    exactly when the last update was an exceeding evaluation and the current uninterrupted run of
    exceeding evaluations is longer than `⌊persistence * window_size⌋` -/
theorem stream_drift_iff_floor (c : SCfg K) (hp : 0 ≤ c.persistence)
    (inputs : List (List K × List (List Nat))) (s : SState K) (evs : List Ev)
    (h : sRun c sInit inputs = some (s, evs)) :
    (s.drift = .drift ↔
      evs.getLast? = some (.eval true) ∧ Nat.floor (c.persistence * (c.window : K)) < runLength evs) := by
  have h0 := (stream_drift_iff c inputs s evs h).2.1
  have hx : 0 ≤ c.persistence * (c.window : K) := mul_nonneg hp (Nat.cast_nonneg _)
  rw [h0, counter_bound_iff_floor _ hx]

end floor

/-- a rounded bound is a different rule: at `persistence * window_size = 15/4` a run of 4 exceeds the
    bound (`⌊15/4⌋ = 3 < 4`) but does not exceed the bound rounded to the nearest integer (4) -/
theorem rounded_bound_differs :
    ((15 : ℚ) / 4 < ((4 : Nat) : ℚ)) ∧ Nat.floor ((15 : ℚ) / 4) = 3 ∧ ¬ ((4 : ℚ) < ((4 : Nat) : ℚ)) := by
  refine ⟨by norm_num, ?_, by norm_num⟩
  rw [Nat.floor_eq_iff (by norm_num)]
  norm_num

end MV.KdqDet
