/-
  C17 for PageHinkley — *partial*, and the counter-example (finding F12).

  Full statement (NOT provable, see `ph_threshold_counterexample`): for thresholds
  `loose ≤ strict` the first drift under `strict` is never earlier.
  Proved (`ph_first_alarm_mono_partial`): the same under the hypothesis that every running
  mean of the statistics run is non-negative.  What is missing is exactly the case of a
  negative running mean, where `threshold * mean` makes a larger threshold a *lower* bound.
-/
import MenelausVerif.Props.C17
import MenelausVerif.Lemmas.SeqSteps
import Mathlib.Algebra.Order.Field.Basic
namespace MV.PH
open MV MV.Mono

theorem ite_beq_drift (p : Prop) [Decidable p] {d : Drift} (hd : d ≠ .drift) :
    ((if p then Drift.drift else d) == Drift.drift) = decide p := by
  by_cases hp : p
  · rw [if_pos hp, decide_eq_true hp]; rfl
  · rw [if_neg hp, decide_eq_false hp]; exact beq_eq_false_iff_ne.2 hd

section carrier
variable {α : Type} [Add α] [Sub α] [Mul α] [Div α] [LT α] [DecidableLT α] [NatCast α]

/-- the Page-Hinkley difference of a state, in the configured direction -/
def diffOf (c : Cfg α) (s : State α) : α :=
  match c.dir with
  | .positive => s.sum - s.mn
  | .negative => s.mx - s.sum

/-- PageHinkley up to its first alarm: statistics without the drift flag; the threshold only
enters the decision -/
def sys (c : Cfg α) : Sys α (State α) α where
  init := init
  stat := fun s x => { (core c s x).1 with drift := .none }
  dec := fun θ s => decide (θ * s.mean < diffOf c s) && decide (s.since > c.burnIn)

theorem stat_threshold_free (c : Cfg α) (θ : α) (s : State α) (x : α) :
    (sys { c with threshold := θ }).stat s x = (sys c).stat s x := rfl

def blank (s : State α) : State α := { s with drift := .none }

theorem link (c : Cfg α) (s : State α) (x : α) (hd : (s.drift == .drift) = false) :
    ((step c s x).1.drift == .drift) = (sys c).dec c.threshold ((sys c).stat (blank s) x) ∧
    (((step c s x).1.drift == .drift) = false → blank (step c s x).1 = (sys c).stat (blank s) x) := by
  have hnd : s.drift ≠ .drift := beq_eq_false_iff_ne.1 hd
  rw [step_of_not_drift c s x hnd]
  refine ⟨?_, fun _ => rfl⟩
  rw [core_drift_eq, ite_beq_drift _ hnd, Bool.decide_and, Bool.decide_eq_true]
  -- the test of an update can be recomputed from the state it leaves (`mean`, `sum`, `mn`, `mx`, `since`),
  -- which is why `dec` reads the new statistics and no lagged system is needed
  rfl

theorem first_drift_is_first_alarm (c : Cfg α) (xs : List α) :
    firstIdx (driftTrace (fun s x => (step c s x).1) (fun s => s.drift == .drift) init xs)
      = firstAlarm (sys c) c.threshold xs :=
  first_drift_eq _ _ (sys c) c.threshold (fun s s' => blank s = s') (fun s _ x hR hd => hR ▸ link c s x hd)
    xs init init rfl rfl

end carrier

section field
variable {K : Type} [Field K] [LinearOrder K] [IsStrictOrderedRing K]

/-- over an ordered field: with a non-negative running mean a larger threshold is a larger bound -/
theorem dec_antitone_of_mean_nonneg (c : Cfg K) (loose strict : K) (hle : loose ≤ strict)
    (s : State K) (hm : 0 ≤ s.mean) (h : (sys c).dec strict s = true) : (sys c).dec loose s = true := by
  simp only [sys, Bool.and_eq_true, decide_eq_true_eq] at *
  refine ⟨lt_of_le_of_lt ?_ h.1, h.2⟩
  exact mul_le_mul_of_nonneg_right hle hm

/-- **PageHinkley, partial.**  For thresholds `loose ≤ strict`, if every running mean of the
(un-reset) statistics run is non-negative, the first alarm under `strict` is never earlier. -/
theorem ph_first_alarm_mono_partial (c : Cfg K) (loose strict : K) (hle : loose ≤ strict) (xs : List K)
    (hmeans : ∀ k, k < xs.length → 0 ≤ ((xs.take (k + 1)).foldl (sys c).stat init).mean) :
    NoLater (firstAlarm (sys c) loose xs) (firstAlarm (sys c) strict xs) :=
  first_alarm_mono_on (sys c) loose strict (fun s => 0 ≤ s.mean)
    (dec_antitone_of_mean_nonneg c loose strict hle) init xs hmeans

end field

/-- **Counter-example to the full statement (finding F12)**, by evaluation over `Int`: on the stream
−1, −1, −1, −1 with burn_in = 2, the stricter threshold 1 alarms at the third sample while the looser
threshold 0 never alarms.  Every division of this run is exact (the mean is −1 throughout), so the run is
the same over `ℚ`; by `first_drift_is_first_alarm` it is also the run of `step`. -/
theorem ph_threshold_counterexample :
    let c : Cfg Int := { delta := 0, threshold := 0, burnIn := 2, dir := .positive }
    firstAlarm (sys c) (1 : Int) [-1, -1, -1, -1] = some 2 ∧
    firstAlarm (sys c) (0 : Int) [-1, -1, -1, -1] = none := by
  decide

end MV.PH
