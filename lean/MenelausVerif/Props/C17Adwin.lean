/-
  C17 for ADWIN and ADWINAccuracy, over `ℝ` (`Real.log`, `Real.sqrt`).  ADWIN's statistics are the detector
  state itself (before the first drift an update is `afterAdd`), so the lagged system of `Props/C17.lean` is used
  directly: its link carries the invariants `SInv` (`Lemmas/AdwinStruct`) and `FInv` (`Lemmas/AdwinStats`), and
  `Props/C03Real.lean` supplies the monotonicity of the cut bound in `delta`.
-/
import MenelausVerif.Props.C17Models
import MenelausVerif.Lemmas.AdwinStats
import MenelausVerif.Props.C03Real

namespace MV.C17
open MV MV.Mono

/- ADWIN keeps its window across drifts, but C17 is about the *first* drift: until then no bucket
  has been dropped, the window is the whole history, and an update is `afterAdd` (add the sample,
  compress) — which reads `max_buckets` only.  The decision of an update is "the check is scheduled
  and a scan of the window after the addition finds a cut" (`Lemmas/AdwinStruct` `step_drift_iff`); a
  scan that finds a cut for the stricter `delta` finds one for the looser (`checkEps_mono_delta`,
  which needs a window of at least two samples — guaranteed by `subwindow_size_thresh ≥ 1` at any
  admissible split — and a non-negative running variance — guaranteed by the exact-statistics
  invariant `FInv`).  Domain: `1 ≤ subwindow_size_thresh`, `0 < delta`. -/
namespace Adwin
open MV.Adwin

section real
attribute [local instance] MV.Adwin.realHasSqrt MV.Adwin.realHasLogExp

noncomputable def stat (c : Cfg ℝ) (p : State ℝ) (x : ℝ) : State ℝ := afterAdd c p x

noncomputable def dec (c : Cfg ℝ) (δ : ℝ) (p : State ℝ) (x : ℝ) : Bool :=
  scheduled c (afterAdd c p x) && hit { c with delta := δ } (afterAdd c p x)

noncomputable def sys (c : Cfg ℝ) : Sys ℝ (State ℝ × Option ℝ) ℝ := lag init (stat c) (dec c)

/-- **the statistics run does not read `delta`** -/
theorem stat_threshold_free (c : Cfg ℝ) (δ : ℝ) : stat { c with delta := δ } = stat c := rfl

theorem link (c : Cfg ℝ) (hsub : 1 ≤ c.subThresh) (δ : ℝ) (s : State ℝ) (x : ℝ) (hs : SInv s) :
    isD (step { c with delta := δ } s x).drift = dec c δ s x ∧
    (isD (step { c with delta := δ } s x).drift = false →
      step { c with delta := δ } s x = stat c s x ∧ SInv (step { c with delta := δ } s x)) := by
  refine ⟨isD_eq_of_iff ((step_drift_iff { c with delta := δ } hsub s hs x).trans
    Bool.and_eq_true_iff.symm), fun hnd => ?_⟩
  exact ⟨step_eq_afterAdd_of_quiet { c with delta := δ } hsub s hs x (isD_false.1 hnd),
    sinv_step { c with delta := δ } hsub s hs x⟩

theorem first_drift_is_first_alarm (c : Cfg ℝ) (hsub : 1 ≤ c.subThresh) (xs : List ℝ) :
    firstIdx (driftTrace (step c) (fun s => isD s.drift) init xs) = firstAlarm (sys c) c.delta xs :=
  lag_first_drift_eq (step c) (fun s => isD s.drift) init (stat c) (dec c) c.delta id SInv
    (fun s x hs _ => link c hsub c.delta s x hs) xs init sinv_init rfl

/-- what the statistics run maintains: the structural invariant and the exact statistics of some
window (before the first drift: of the whole history) -/
def Exact (p : State ℝ) : Prop := SInv p ∧ ∃ win, FInv p win

theorem exact_stat (c : Cfg ℝ) (p : State ℝ) (x : ℝ) (h : Exact p) : Exact (stat c p x) := by
  obtain ⟨hs, win, hf⟩ := h
  exact ⟨sinv_afterAdd c p hs x, win ++ [x], finv_afterAdd c p win hf x⟩

/-- **one-step antitonicity of the cut decision in `delta`**: on a state with non-negative variance
(`FInv` gives it), a scan that finds a cut under the stricter `d1` finds one under the looser `d2 ≥ d1` -/
theorem hit_mono_delta (c : Cfg ℝ) (hsub : 1 ≤ c.subThresh) (d1 d2 : ℝ) (h1 : 0 < d1) (h12 : d1 ≤ d2)
    (s : State ℝ) (hv : 0 ≤ s.var) (h : hit { c with delta := d1 } s = true) :
    hit { c with delta := d2 } s = true := by
  rw [hit_iff] at h ⊢
  obtain ⟨k, hk, g1, g2, g3, g4⟩ := h
  refine ⟨k, hk, g1, g2, g3, ?_⟩
  -- both sides of an admissible split hold at least `subwindow_size_thresh ≥ 1` samples, so `2 ≤ W`
  dsimp only at g2 g3
  exact checkEps_mono_delta c d1 d2 h1 h12 s (by omega) hv _ _ _ _ g4

theorem dec_antitone (c : Cfg ℝ) (hsub : 1 ≤ c.subThresh) (strict loose : ℝ) (h0 : 0 < strict)
    (hle : strict ≤ loose) (p : State ℝ) (x : ℝ) (hp : Exact p) (h : dec c strict p x = true) :
    dec c loose p x = true := by
  unfold dec at *
  rw [Bool.and_eq_true] at h ⊢
  obtain ⟨_, win, hf⟩ := exact_stat c p x hp
  exact ⟨h.1, hit_mono_delta c hsub strict loose h0 hle _ hf.var_nonneg h.2⟩

/-- **ADWIN: a smaller `delta` never makes the first drift earlier** — for every configuration with
`subwindow_size_thresh ≥ 1` (both bounds, any `max_buckets`, check schedule and window threshold),
every pair `0 < strict ≤ loose` and every real-valued history.  (Here and in `dec_antitone` above
`strict` comes before `loose`; the other detectors' theorems take `loose strict`.) -/
theorem adwin_first_drift_mono (c : Cfg ℝ) (hsub : 1 ≤ c.subThresh) (strict loose : ℝ) (h0 : 0 < strict)
    (hle : strict ≤ loose) (xs : List ℝ) :
    NoLater (firstIdx (driftTrace (step { c with delta := loose }) (fun s => isD s.drift) init xs))
      (firstIdx (driftTrace (step { c with delta := strict }) (fun s => isD s.drift) init xs)) :=
  lag_first_drift_mono (step { c with delta := loose }) (step { c with delta := strict }) (fun s => isD s.drift)
    init (stat c) (dec c) loose strict id SInv Exact (fun s x hs _ => link c hsub loose s x hs)
    (fun s x hs _ => link c hsub strict s x hs) (exact_stat c) (dec_antitone c hsub strict loose h0 hle)
    init sinv_init rfl ⟨sinv_init, [], finv_init⟩ xs

/-- the same for ADWINAccuracy (ADWIN on the agreement indicators, `Props/C03.lean`
`adwinAcc_eq_adwin`), whatever the label type -/
theorem adwinAcc_first_drift_mono {β : Type} [DecidableEq β] (c : Cfg ℝ) (hsub : 1 ≤ c.subThresh)
    (strict loose : ℝ) (h0 : 0 < strict) (hle : strict ≤ loose) (ys : List (β × β)) :
    NoLater
      (firstIdx (driftTrace (AdwinAcc.step { c with delta := loose }) (fun s => isD s.drift) init ys))
      (firstIdx (driftTrace (AdwinAcc.step { c with delta := strict }) (fun s => isD s.drift) init ys)) := by
  have h := adwin_first_drift_mono c hsub strict loose h0 hle (ys.map fun y => AdwinAcc.indicator y.1 y.2)
  rw [← driftTrace_map, ← driftTrace_map] at h
  exact h

end real
end Adwin

namespace Examples

-- ADWIN (over `ℝ`, not evaluable): the hypotheses are satisfiable
noncomputable def ca : MV.Adwin.Cfg ℝ :=
  { delta := 1, maxBuckets := 2, newSampleThresh := 1, windowThresh := 0, subThresh := 1, conservative := false }
example (l : List ℝ) : True := by
  have _h := Adwin.adwin_first_drift_mono ca (by decide) (1 / 100) (1 / 2) (by norm_num) (by norm_num) l
  trivial

end Examples

end MV.C17
