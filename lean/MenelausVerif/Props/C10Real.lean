/-
  C10 over `ℝ` (`sqrt := Real.sqrt`): NNDVI's `mean`, `stdPop` and `threshold` are the arithmetic mean, the
  population standard deviation and `mean + z·std` (`threshold_real`); when all re-assignment distances
  coincide the threshold is their common value (`threshold_zero_spread`).
-/
import MenelausVerif.Props.C10
import Mathlib.Analysis.Real.Sqrt

namespace MV.NNDVI
open MV MV.NNSP

section Real
noncomputable local instance : HasSqrt ℝ := ⟨Real.sqrt⟩

/-- over ℝ: `mean` is the arithmetic mean, `stdPop` the *population* standard deviation
    (divisor n), and the threshold is `mean + z·std` -/
theorem threshold_real (z : ℝ) (ds : List ℝ) :
    (mean ds = ds.sum / ds.length) ∧
    (0 ≤ stdPop ds) ∧
    (stdPop ds ^ 2 = (ds.map (fun d => (d - ds.sum / ds.length) ^ 2)).sum / ds.length) ∧
    (threshold z ds = ds.sum / ds.length + z * stdPop ds) := by
  have hm : mean ds = ds.sum / ds.length := by unfold mean; rw [sumL_eq_sum]
  refine ⟨hm, Real.sqrt_nonneg _, ?_, ?_⟩
  · unfold stdPop
    simp only [hm, sumL_eq_sum]
    show Real.sqrt _ ^ 2 = _
    rw [Real.sq_sqrt]
    · congr 2
      apply List.map_congr_left
      intro d _; ring
    · apply div_nonneg
      · apply List.sum_nonneg
        intro x hx
        obtain ⟨d, _, rfl⟩ := List.mem_map.mp hx
        exact mul_self_nonneg _
      · exact Nat.cast_nonneg _
  · rw [threshold_def, hm, add_comm]

/-- when all re-assignment distances coincide the threshold is that common value (for every z):
    drift is then reported iff the distance exceeds it -/
theorem threshold_zero_spread (z c : ℝ) (n : Nat) (hn : 0 < n) : threshold z (List.replicate n c) = c := by
  have hm : mean (List.replicate n c) = c := by
    unfold mean; rw [sumL_eq_sum]
    have : (n : ℝ) ≠ 0 := Nat.cast_ne_zero.mpr hn.ne'
    simp [List.sum_replicate]; field_simp
  have hs : stdPop (List.replicate n c) = 0 := by
    unfold stdPop
    simp only [hm, List.map_replicate, sub_self, mul_zero, sumL_eq_sum, List.sum_replicate, smul_zero, zero_div]
    exact Real.sqrt_zero
  rw [threshold_def, hs, hm]; simp

/-- five equal re-assignment distances 0 (std = 0) and an actual distance 1/5: drift -/
example : threshold (2 : ℝ) [0, 0, 0, 0, 0] < 1 / 5 := by
  have := threshold_zero_spread 2 0 5 (by norm_num)
  simp only [List.replicate] at this
  rw [this]; norm_num

end Real

end MV.NNDVI
