/-
  C20 — drift injectors change only the window and columns they are asked to change.

  Law-free part (every carrier, hence also the `Float` instance the driver executes): shape / labels /
  container preserved, rows outside `[from, to)` and all non-targeted columns unchanged (`Frame`),
  feature swap exchanges exactly the two columns and is an involution, the cell-level effect of label
  swap / join / shift / random walk as coded, resampled rows are rows of the window, cover spec.
  With lawful equality: label swap is an involution, swap / join cell specifications.
  Fields: shift amount `shift_factor * (alpha + window mean)`, closed form of the random walk.
  Ordered fields: the sampling vector `max(p + leftover, 0)` is non-negative and sums to at least one, always; when nothing
  is clamped (non-negative dictionary with sum at most one) it sums to one and gives each class present in the
  window its requested mass plus its per-sample share of the mass requested for absent classes.
-/
import MenelausVerif.Model.Inject
import MenelausVerif.Lemmas.Carrier
import Mathlib.Algebra.Order.Field.Basic
import Mathlib.Data.List.Nodup
import Mathlib.Data.List.Perm.Basic
import Mathlib.Algebra.BigOperators.Group.List.Basic
import Mathlib.Algebra.Order.BigOperators.Group.List
namespace MV.Inject
variable {α : Type}

theorem ite_error_eq_ok {ε β : Type} {c : Prop} [Decidable c] {e : ε} {x : Except ε β} {b : β} :
    (if c then .error e else x) = .ok b ↔ ¬ c ∧ x = .ok b := by
  split <;> simp [*]

section mapWin
variable (f t : Nat) (g : Nat → List α → List α) (rows : List (List α))

theorem length_mapWin : (mapWin f t g rows).length = rows.length := by
  simp [mapWin]

theorem getElem?_mapWin (i : Nat) :
    (mapWin f t g rows)[i]? = (rows[i]?).map (fun r => if f ≤ i ∧ i < t then g (i - f) r else r) := by
  simp [mapWin, List.getElem?_mapIdx]

theorem mapWin_outside (i : Nat) (h : ¬ (f ≤ i ∧ i < t)) : (mapWin f t g rows)[i]? = rows[i]? := by
  rw [getElem?_mapWin]; simp [h]

theorem mapWin_inside (i : Nat) (h : f ≤ i ∧ i < t) : (mapWin f t g rows)[i]? = (rows[i]?).map (g (i - f)) := by
  rw [getElem?_mapWin]; simp [h]

theorem mapWin_mapWin (h : Nat → List α → List α) :
    mapWin f t g (mapWin f t h rows) = mapWin f t (fun k r => g k (h k r)) rows := by
  apply List.ext_getElem?
  intro i
  simp only [getElem?_mapWin, Option.map_map]
  congr 1
  funext r
  by_cases hi : f ≤ i ∧ i < t <;> simp [hi]

theorem mapWin_id (hg : ∀ k r, g k r = r) : mapWin f t g rows = rows := by
  apply List.ext_getElem?
  intro i
  simp [getElem?_mapWin, hg]

end mapWin

/-- what "changes only the window `[f, t)` and the columns `cols`" means -/
structure Frame (f t : Nat) (cols : List Nat) (d d' : Data α) : Prop where
  labels : d'.labels = d.labels
  width : d'.width = d.width
  nrows : d'.rows.length = d.rows.length
  rowLen : ∀ i : Nat, (d'.rows[i]?).map List.length = (d.rows[i]?).map List.length
  outside : ∀ i : Nat, ¬ (f ≤ i ∧ i < t) → d'.rows[i]? = d.rows[i]?
  others : ∀ i j : Nat, j ∉ cols → cell d'.rows i j = cell d.rows i j

theorem frame_mapWin (d : Data α) (f t : Nat) (cols : List Nat) (g : Nat → List α → List α)
    (hlen : ∀ k r, (g k r).length = r.length)
    (hoth : ∀ k r j, j ∉ cols → (g k r)[j]? = r[j]?) :
    Frame f t cols d { d with rows := mapWin f t g d.rows } := by
  -- a row of the result is `if f ≤ i ∧ i < t then g (i - f) r else r`: both branches have the length and the
  -- other cells of `r`
  refine ⟨rfl, rfl, length_mapWin .., fun i => ?_, mapWin_outside f t g d.rows, fun i j hj => ?_⟩
  · rw [getElem?_mapWin, Option.map_map]
    exact congrArg (Option.map · _) (funext fun r => by
      rw [Function.comp, apply_ite List.length, hlen, ite_self])
  · rw [cell, cell, getElem?_mapWin, Option.bind_map]
    exact congrArg (Option.bind _) (funext fun r => by
      rw [Function.comp, apply_ite (·[j]?), hoth _ _ _ hj, ite_self])

theorem modify_other (c : Nat) (g : α → α) (r : List α) (j : Nat) (h : j ∉ [c]) :
    (r.modify c g)[j]? = r[j]? :=
  List.getElem?_modify_ne g r fun e => h (List.mem_singleton.mpr e.symm)

theorem modify_self (c : Nat) (g : α → α) (r : List α) :
    (r.modify c g)[c]? = (r[c]?).map g :=
  List.getElem?_modify_eq g c r

theorem cell_mapWin_inside (f t : Nat) (g : Nat → List α → List α) (rows : List (List α)) (i j : Nat)
    (hi : f ≤ i ∧ i < t) : cell (mapWin f t g rows) i j = (rows[i]?).bind fun r => (g (i - f) r)[j]? := by
  rw [cell, mapWin_inside _ _ _ _ _ hi, Option.bind_map]; rfl

theorem length_swapCells (c1 c2 : Nat) (r : List α) : (swapCells c1 c2 r).length = r.length := by
  unfold swapCells
  split <;> simp

theorem swapCells_cases (c1 c2 : Nat) (r : List α) :
    swapCells c1 c2 r = r ∨ ∃ a b, r[c1]? = some a ∧ r[c2]? = some b := by
  unfold swapCells
  split
  next a b h1 h2 => exact .inr ⟨a, b, h1, h2⟩
  next => exact .inl rfl

theorem getElem?_swapCells (c1 c2 : Nat) (r : List α) (a b : α) (h1 : r[c1]? = some a) (h2 : r[c2]? = some b)
    (j : Nat) : (swapCells c1 c2 r)[j]? = if c2 = j then some a else if c1 = j then some b else r[j]? := by
  have l1 := (List.getElem?_eq_some_iff.mp h1).1
  have l2 := (List.getElem?_eq_some_iff.mp h2).1
  simp only [swapCells, h1, h2, List.getElem?_set, List.length_set, l1, l2, if_true]

theorem swapCells_other (c1 c2 : Nat) (r : List α) (j : Nat) (h : j ∉ [c1, c2]) :
    (swapCells c1 c2 r)[j]? = r[j]? := by
  rcases swapCells_cases c1 c2 r with e | ⟨a, b, h1, h2⟩
  · rw [e]
  · rw [getElem?_swapCells c1 c2 r a b h1 h2, if_neg, if_neg]
    · exact fun e => h (e ▸ List.mem_cons_self)
    · exact fun e => h (e ▸ List.mem_cons_of_mem _ List.mem_cons_self)

theorem swapCells_spec (c1 c2 : Nat) (r : List α) (h1 : c1 < r.length) (h2 : c2 < r.length) :
    (swapCells c1 c2 r)[c1]? = r[c2]? ∧ (swapCells c1 c2 r)[c2]? = r[c1]? := by
  have e1 := List.getElem?_eq_getElem h1
  have e2 := List.getElem?_eq_getElem h2
  constructor
  · rw [getElem?_swapCells c1 c2 r _ _ e1 e2, e2]
    split
    · subst c2; rfl
    · exact if_pos rfl
  · rw [getElem?_swapCells c1 c2 r _ _ e1 e2, if_pos rfl, e1]

theorem swapCells_swapCells (c1 c2 : Nat) (r : List α) : swapCells c1 c2 (swapCells c1 c2 r) = r := by
  rcases swapCells_cases c1 c2 r with e | ⟨a, b, e1, e2⟩
  · rw [e, e]
  · obtain ⟨s1, s2⟩ :=
      swapCells_spec c1 c2 r (List.getElem?_eq_some_iff.mp e1).1 (List.getElem?_eq_some_iff.mp e2).1
    refine List.ext_getElem? fun j => ?_
    -- the swapped row has `b` in column `c1` and `a` in column `c2`
    rw [getElem?_swapCells c1 c2 _ b a (s1.trans e2) (s2.trans e1)]
    split
    · subst j; exact e2.symm
    · split
      · subst j; exact e1.symm
      · rw [getElem?_swapCells c1 c2 r a b e1 e2, if_neg ‹_›, if_neg ‹_›]

/-- what three of the window injectors do (shift, label swap, label join): `d'` is `d` with the column `col`
    rewritten inside the window, every cell by `φ c`, where `c` is the position `col` resolves to -/
abbrev ColRewrite (d d' : Data α) (f t : Nat) (col : Lbl) (φ : Nat → α → α) : Prop :=
  ∃ c, resolve d col = .ok c ∧ d' = { d with rows := mapWin f t (fun _ r => r.modify c (φ c)) d.rows }

section colRewrite
variable {d d' : Data α} {f t : Nat} {col : Lbl} {φ : Nat → α → α} (h : ColRewrite d d' f t col φ)
include h

theorem ColRewrite.frame : ∃ c, resolve d col = .ok c ∧ Frame f t [c] d d' := by
  obtain ⟨c, hc, rfl⟩ := h
  exact ⟨c, hc, frame_mapWin d f t [c] _ (fun _ _ => List.length_modify ..) (fun _ r j hj => modify_other c _ r j hj)⟩

theorem ColRewrite.cell {c i : Nat} (hc : resolve d col = .ok c) (hi : f ≤ i ∧ i < t) :
    cell d'.rows i c = (cell d.rows i c).map (φ c) := by
  obtain ⟨c', hc', rfl⟩ := h
  cases hc.symm.trans hc'
  rw [cell_mapWin_inside _ _ _ _ _ _ hi, cell]
  cases d.rows[i]? with
  | none => rfl
  | some r => exact modify_self c _ r

end colRewrite

theorem featureShift_ok [Add α] [Mul α] [Div α] [NatCast α] {d d' : Data α} {f t : Nat} {col : Lbl} {sf al : α} :
    featureShift d f t col sf al = .ok d' ↔
      ColRewrite d d' f t col (fun c => (· + shiftDelta d.rows f t c sf al)) := by
  unfold featureShift ColRewrite
  cases resolve d col <;> simp [eq_comm]

/-- shape, labels, rows outside the window and all other columns are untouched -/
theorem featureShift_frame [Add α] [Mul α] [Div α] [NatCast α] (d d' : Data α) (f t : Nat) (col : Lbl) (sf al : α)
    (h : featureShift d f t col sf al = .ok d') :
    ∃ c, resolve d col = .ok c ∧ Frame f t [c] d d' :=
  (featureShift_ok.mp h).frame

/-- inside the window the cell of the column is `cell + (alpha + mean of the window column) * shift_factor` -/
theorem featureShift_spec [Add α] [Mul α] [Div α] [NatCast α] (d d' : Data α) (f t : Nat) (col : Lbl) (sf al : α) (c : Nat)
    (h : featureShift d f t col sf al = .ok d') (hc : resolve d col = .ok c)
    (i : Nat) (hi : f ≤ i ∧ i < t) :
    cell d'.rows i c = (cell d.rows i c).map (· + (al + meanL (colOf c (window f t d.rows))) * sf) :=
  (featureShift_ok.mp h).cell hc hi

theorem featureSwap_ok {d d' : Data α} {f t : Nat} {col1 col2 : Lbl} :
    featureSwap d f t col1 col2 = .ok d' ↔ ∃ c1 c2, resolve d col1 = .ok c1 ∧ resolve d col2 = .ok c2 ∧
      d' = { d with rows := mapWin f t (fun _ => swapCells c1 c2) d.rows } := by
  unfold featureSwap
  cases resolve d col1 <;> cases resolve d col2 <;> simp [eq_comm]

theorem featureSwap_frame (d d' : Data α) (f t : Nat) (col1 col2 : Lbl)
    (h : featureSwap d f t col1 col2 = .ok d') :
    ∃ c1 c2, resolve d col1 = .ok c1 ∧ resolve d col2 = .ok c2 ∧ Frame f t [c1, c2] d d' := by
  obtain ⟨c1, c2, hc1, hc2, rfl⟩ := featureSwap_ok.mp h
  exact ⟨c1, c2, hc1, hc2, frame_mapWin d f t [c1, c2] _ (fun _ r => length_swapCells c1 c2 r)
    (fun _ r j hj => swapCells_other c1 c2 r j hj)⟩

/-- inside the window the two columns are exchanged, in rows that have both columns.  For `Data.WF` input
    these are all rows (`resolve` then yields columns inside the width); no lemma here draws that
    conclusion, `h1` / `h2` are left to the caller. -/
theorem featureSwap_spec (d d' : Data α) (f t : Nat) (col1 col2 : Lbl) (c1 c2 : Nat)
    (h : featureSwap d f t col1 col2 = .ok d') (hc1 : resolve d col1 = .ok c1) (hc2 : resolve d col2 = .ok c2)
    (i : Nat) (hi : f ≤ i ∧ i < t) (r : List α) (hr : d.rows[i]? = some r)
    (h1 : c1 < r.length) (h2 : c2 < r.length) :
    cell d'.rows i c1 = cell d.rows i c2 ∧ cell d'.rows i c2 = cell d.rows i c1 := by
  obtain ⟨c1', c2', hc1', hc2', rfl⟩ := featureSwap_ok.mp h
  cases hc1.symm.trans hc1'
  cases hc2.symm.trans hc2'
  rw [cell_mapWin_inside _ _ _ _ _ _ hi, cell_mapWin_inside _ _ _ _ _ _ hi, cell, cell, hr]
  exact swapCells_spec c1 c2 r h1 h2

/-- applying the swap twice restores the input -/
theorem featureSwap_involution (d d' : Data α) (f t : Nat) (col1 col2 : Lbl)
    (h : featureSwap d f t col1 col2 = .ok d') : featureSwap d' f t col1 col2 = .ok d := by
  obtain ⟨c1, c2, hc1, hc2, rfl⟩ := featureSwap_ok.mp h
  -- `resolve` reads labels and width only, which the swap left as they were
  refine featureSwap_ok.mpr ⟨c1, c2, hc1, hc2, ?_⟩
  simp only [mapWin_mapWin, swapCells_swapCells]
  rw [mapWin_id _ _ _ _ (fun _ _ => rfl)]

theorem labelSwap_ok [BEq α] {d d' : Data α} {f t : Nat} {col : Lbl} {a b : α} :
    labelSwap d f t col a b = .ok d' ↔ ColRewrite d d' f t col (fun _ => swapLabel a b) := by
  unfold labelSwap ColRewrite
  cases resolve d col <;> simp [eq_comm]

theorem labelSwap_frame [BEq α] (d d' : Data α) (f t : Nat) (col : Lbl) (a b : α)
    (h : labelSwap d f t col a b = .ok d') :
    ∃ c, resolve d col = .ok c ∧ Frame f t [c] d d' :=
  (labelSwap_ok.mp h).frame

theorem labelSwap_cell [BEq α] (d d' : Data α) (f t : Nat) (col : Lbl) (a b : α) (c : Nat)
    (h : labelSwap d f t col a b = .ok d') (hc : resolve d col = .ok c)
    (i : Nat) (hi : f ≤ i ∧ i < t) :
    cell d'.rows i c = (cell d.rows i c).map (swapLabel a b) :=
  (labelSwap_ok.mp h).cell hc hi

/-- the class exchange, cell by cell (equality of the carrier is the lawful one) -/
theorem swapLabel_spec [BEq α] [LawfulBEq α] (a b x : α) :
    (x = a → swapLabel a b x = b) ∧ (x = b → swapLabel a b x = a) ∧
    (x ≠ a → x ≠ b → swapLabel a b x = x) := by
  unfold swapLabel
  refine ⟨?_, ?_, ?_⟩
  · intro h; subst h
    by_cases hab : x = b
    · subst hab; simp
    · simp [hab]
  · intro h; subst h; simp
  · intro h1 h2; simp [h1, h2]

theorem swapLabel_swapLabel [BEq α] [LawfulBEq α] (a b x : α) : swapLabel a b (swapLabel a b x) = x := by
  by_cases hb : x = b
  · rw [(swapLabel_spec a b x).2.1 hb, (swapLabel_spec a b a).1 rfl, hb]
  · by_cases ha : x = a
    · rw [(swapLabel_spec a b x).1 ha, (swapLabel_spec a b b).2.1 rfl, ha]
    · rw [(swapLabel_spec a b x).2.2 ha hb, (swapLabel_spec a b x).2.2 ha hb]

/-- applying the class swap twice restores the input -/
theorem labelSwap_involution [BEq α] [LawfulBEq α] (d d' : Data α) (f t : Nat) (col : Lbl) (a b : α)
    (h : labelSwap d f t col a b = .ok d') : labelSwap d' f t col a b = .ok d := by
  obtain ⟨c, hc, rfl⟩ := labelSwap_ok.mp h
  refine labelSwap_ok.mpr ⟨c, hc, ?_⟩
  have hr : ∀ r : List α, (r.modify c (swapLabel a b)).modify c (swapLabel a b) = r := fun r => by
    rw [List.modify_modify_eq, show swapLabel a b ∘ swapLabel a b = id from funext (swapLabel_swapLabel a b),
      List.modify_id]
  rw [mapWin_mapWin, mapWin_id f t _ d.rows (fun _ r => hr r)]

theorem labelJoin_ok [BEq α] {d d' : Data α} {f t : Nat} {col : Lbl} {a b nw : α} :
    labelJoin d f t col a b nw = .ok d' ↔ ColRewrite d d' f t col (fun _ => joinLabel a b nw) := by
  unfold labelJoin ColRewrite
  cases resolve d col <;> simp [eq_comm]

theorem labelJoin_frame [BEq α] (d d' : Data α) (f t : Nat) (col : Lbl) (a b nw : α)
    (h : labelJoin d f t col a b nw = .ok d') :
    ∃ c, resolve d col = .ok c ∧ Frame f t [c] d d' :=
  (labelJoin_ok.mp h).frame

theorem labelJoin_cell [BEq α] (d d' : Data α) (f t : Nat) (col : Lbl) (a b nw : α) (c : Nat)
    (h : labelJoin d f t col a b nw = .ok d') (hc : resolve d col = .ok c)
    (i : Nat) (hi : f ≤ i ∧ i < t) :
    cell d'.rows i c = (cell d.rows i c).map (joinLabel a b nw) :=
  (labelJoin_ok.mp h).cell hc hi

/-- both classes become the new class, every other label stays -/
theorem joinLabel_spec [BEq α] [LawfulBEq α] (a b nw x : α) :
    ((x = a ∨ x = b) → joinLabel a b nw x = nw) ∧ (x ≠ a → x ≠ b → joinLabel a b nw x = x) := by
  unfold joinLabel
  constructor
  · rintro (h | h) <;> subst h <;> simp
  · intro h1 h2; simp [h1, h2]

section brownian
variable [Add α] [Div α] [Neg α] [NatCast α] [HasSqrt α]

theorem length_walkFrom (steps : Nat) (prev : α) (ds : List Bool) :
    (walkFrom steps prev ds).length = ds.length := by
  induction ds generalizing prev with
  | nil => rfl
  | cons u ds ih => simp [walkFrom, ih]

theorem randomWalk_of_ne [Mul α] {steps : Nat} (h : steps ≠ 0) (x0 : α) (draws : List Bool) :
    randomWalk steps x0 draws = (one * x0) :: walkFrom steps (one * x0) draws := if_neg h

/-- one noise value per row of the window -/
theorem length_randomWalk [Mul α] (steps : Nat) (x0 : α) (draws : List Bool) (h : draws.length = steps - 1) :
    (randomWalk steps x0 draws).length = steps := by
  by_cases hs : steps = 0
  · subst hs; rfl
  · rw [randomWalk_of_ne hs, List.length_cons, length_walkFrom, h]; omega

/-- the walk starts at `x0` (`np.ones(steps) * x0`) -/
theorem randomWalk_zero [Mul α] (steps : Nat) (x0 : α) (draws : List Bool) (h : steps ≠ 0) :
    (randomWalk steps x0 draws)[0]? = some (one * x0) := by
  rw [randomWalk_of_ne h]; rfl

theorem walkFrom_succ (steps : Nat) (prev : α) (ds : List Bool) (k : Nat) (up : Bool) (v : α)
    (hv : (prev :: walkFrom steps prev ds)[k]? = some v) (hu : ds[k]? = some up) :
    (prev :: walkFrom steps prev ds)[k + 1]? = some (v + walkStep steps up) := by
  induction ds generalizing prev k with
  | nil => cases hu
  | cons u ds ih =>
    cases k with
    | zero =>
      cases Option.some.inj hv
      cases Option.some.inj hu
      rfl
    | succ k => exact ih _ k hv hu

/-- `w[k+1] = w[k] + y_k / sqrt(steps)` where `y_k = ±1` is the `k`-th draw -/
theorem randomWalk_succ [Mul α] (steps : Nat) (x0 : α) (draws : List Bool) (k : Nat) (up : Bool) (v : α)
    (hv : (randomWalk steps x0 draws)[k]? = some v) (hu : draws[k]? = some up) :
    (randomWalk steps x0 draws)[k + 1]? = some (v + walkStep steps up) := by
  by_cases hs : steps = 0
  · subst hs; cases hv
  · rw [randomWalk_of_ne hs] at hv ⊢
    exact walkFrom_succ steps _ draws k up v hv hu

theorem brownian_ok [Mul α] {d d' : Data α} {f t : Nat} {col : Lbl} {x0 : α} {draws : List Bool} :
    brownian d f t col x0 draws = .ok d' ↔ ∃ c, resolve d col = .ok c ∧ draws.length = t - f - 1 ∧
      d' = { d with rows := mapWin f t (fun k r =>
              match (randomWalk (t - f) x0 draws)[k]? with
              | some v => r.modify c (· + v)
              | none => r) d.rows } := by
  unfold brownian
  cases resolve d col with
  | error e => simp
  | ok c =>
    simp only [ite_error_eq_ok, Decidable.not_not, Except.ok.injEq, exists_eq_left']
    exact and_congr_right' eq_comm

theorem brownian_frame [Mul α] (d d' : Data α) (f t : Nat) (col : Lbl) (x0 : α) (draws : List Bool)
    (h : brownian d f t col x0 draws = .ok d') :
    ∃ c, resolve d col = .ok c ∧ draws.length = t - f - 1 ∧ Frame f t [c] d d' := by
  obtain ⟨c, hc, hlen, rfl⟩ := brownian_ok.mp h
  refine ⟨c, hc, hlen, frame_mapWin d f t [c] _ (fun k r => ?_) (fun k r j hj => ?_)⟩
  · split <;> simp
  · split
    · exact modify_other c _ r j hj
    · rfl

/-- inside the window, row `i` gets the walk value number `i - from` added in the column -/
theorem brownian_spec [Mul α] (d d' : Data α) (f t : Nat) (col : Lbl) (x0 : α) (draws : List Bool) (c : Nat)
    (h : brownian d f t col x0 draws = .ok d') (hc : resolve d col = .ok c)
    (i : Nat) (hi : f ≤ i ∧ i < t) :
    ∃ v, (randomWalk (t - f) x0 draws)[i - f]? = some v ∧
      cell d'.rows i c = (cell d.rows i c).map (· + v) := by
  obtain ⟨c', hc', hlen, rfl⟩ := brownian_ok.mp h
  cases hc.symm.trans hc'
  have hlt : i - f < (randomWalk (t - f) x0 draws).length :=
    Nat.lt_of_lt_of_eq (Nat.sub_lt_sub_right hi.1 hi.2) (length_randomWalk (t - f) x0 draws hlen).symm
  refine ⟨_, List.getElem?_eq_getElem hlt, ?_⟩
  rw [cell_mapWin_inside _ _ _ _ _ _ hi, cell]
  cases d.rows[i]? with
  | none => rfl
  | some r =>
    simp only [List.getElem?_eq_getElem hlt]
    exact modify_self ..

end brownian

theorem mem_classIdx [BEq α] (rows : List (List α)) (f t c : Nat) (cls : α) (s : Nat) :
    s ∈ classIdx rows f t c cls ↔ s < rows.length ∧ (f ≤ s ∧ s < t) ∧ cellIs rows c cls s = true := by
  simp only [classIdx, List.mem_filter, List.mem_range, Bool.and_eq_true, decide_eq_true_eq]

/-- one probability per member of the population, in the same (class-grouped) order -/
theorem length_rawP [Div α] [NatCast α] [BEq α] (full : List (α × α)) (groups : List (α × List Nat)) :
    (rawP full groups).length = (groups.flatMap (·.2)).length := by
  simp [rawP, List.length_flatMap]

theorem mem_rawP [Div α] [NatCast α] [BEq α] (full : List (α × α)) (groups : List (α × List Nat)) (x : α) :
    x ∈ rawP full groups ↔
      ∃ g ∈ groups, g.2.length ≠ 0 ∧ x = probOf full g.1 / ((g.2.length : Nat) : α) := by
  simp only [rawP, List.mem_flatMap, List.mem_replicate]

theorem rawP_map [Div α] [NatCast α] [BEq α] (full : List (α × α)) (groups : List (α × List Nat)) (φ : α → α) :
    (rawP full groups).map φ =
      groups.flatMap (fun g => List.replicate g.2.length
        (φ (probOf full g.1 / ((g.2.length : Nat) : α)))) := by
  simp [rawP, List.map_flatMap]

theorem length_resampleRows (rows : List (List α)) (f t : Nat) (sample : List Nat) :
    (resampleRows rows f t sample).length = rows.length := length_mapWin ..

theorem resampleRows_outside (rows : List (List α)) (f t : Nat) (sample : List Nat) (i : Nat)
    (h : ¬ (f ≤ i ∧ i < t)) : (resampleRows rows f t sample)[i]? = rows[i]? :=
  mapWin_outside _ _ _ _ _ h

theorem resampleRows_inside (rows : List (List α)) (f t : Nat) (sample : List Nat) (i s : Nat)
    (hi : f ≤ i ∧ i < t) (hn : i < rows.length) (hs : sample[i - f]? = some s) (hsn : s < rows.length) :
    (resampleRows rows f t sample)[i]? = rows[s]? := by
  simp only [resampleRows, mapWin_inside _ _ _ _ _ hi, hs, Option.bind_some, List.getElem?_eq_getElem hsn,
    List.getElem?_eq_getElem hn, Option.map_some]

section prob
variable [Add α] [Sub α] [Div α] [Neg α] [LT α] [DecidableLT α] [NatCast α] [BEq α]

/-- classes of the data that `class_probabilities` does not mention -/
def undefOf (rows : List (List α)) (c : Nat) (cp : List (α × α)) : List α :=
  (unique (colOf c rows)).filter (fun k => !keyIn cp k)

/-- the completed dictionary -/
def fullOf (rows : List (List α)) (c : Nat) (cp : List (α × α)) : List (α × α) :=
  completeProbs cp (undefOf rows c cp)

/-- per-sample probabilities before the leftover is spread -/
def rawPOf (rows : List (List α)) (f t c : Nat) (cp : List (α × α)) : List α :=
  rawP (fullOf rows c cp) (groupsOf rows f t c)

/-- `p_leftover` -/
def leftoverOf (rows : List (List α)) (f t c : Nat) (cp : List (α × α)) : α :=
  (one - sumL (rawPOf rows f t c cp)) / (((rawPOf rows f t c cp).length : Nat) : α)

/-- `probPlan` with its intermediate values named -/
theorem probPlan_eq (rows : List (List α)) (f t c : Nat) (cp : List (α × α)) :
    probPlan rows f t c cp =
      if rejectSum (sumL (cp.map (·.2))) then .error .value
      else if !sameSet (unique (colOf c rows)) (cp.map (·.1) ++ undefOf rows c cp) then .error .value
      else if ((groupsOf rows f t c).flatMap (·.2)).isEmpty then .ok ⟨[], []⟩
      else .ok ⟨(groupsOf rows f t c).flatMap (·.2),
        (rawPOf rows f t c cp).map (fun x => pyMax (x + leftoverOf rows f t c cp) zero)⟩ := rfl

/-- what an accepted call hands to `np.random.choice`: the sum test did not reject, and every entry is
    `max(p + p_leftover, 0.0)`.  That the key test passed as well is `probPlan_keys_subset`. -/
theorem probPlan_inv (rows : List (List α)) (f t c : Nat) (cp : List (α × α)) (plan : Plan α)
    (h : probPlan rows f t c cp = .ok plan) :
    ¬ rejectSum (sumL (cp.map (·.2))) ∧
    (((groupsOf rows f t c).flatMap (·.2) = [] ∧ plan = ⟨[], []⟩) ∨
     ((groupsOf rows f t c).flatMap (·.2) ≠ [] ∧
       plan = ⟨(groupsOf rows f t c).flatMap (·.2),
               (rawPOf rows f t c cp).map (fun x => pyMax (x + leftoverOf rows f t c cp) zero)⟩)) := by
  rw [probPlan_eq, ite_error_eq_ok, ite_error_eq_ok] at h
  obtain ⟨hs, -, h⟩ := h
  refine ⟨hs, ?_⟩
  by_cases he : ((groupsOf rows f t c).flatMap (·.2)).isEmpty = true
  · rw [if_pos he] at h
    exact .inl ⟨List.isEmpty_iff.mp he, (Except.ok.inj h).symm⟩
  · rw [if_neg he] at h
    exact .inr ⟨mt List.isEmpty_iff.mpr he, (Except.ok.inj h).symm⟩

/-- the population handed to `np.random.choice` consists of rows of the window -/
theorem probPlan_grouped_mem (rows : List (List α)) (f t c : Nat) (cp : List (α × α)) (plan : Plan α)
    (h : probPlan rows f t c cp = .ok plan) (s : Nat) (hs : s ∈ plan.grouped) :
    f ≤ s ∧ s < t ∧ s < rows.length := by
  obtain ⟨-, ⟨-, rfl⟩ | ⟨-, rfl⟩⟩ := probPlan_inv rows f t c cp plan h
  · cases hs
  · simp only [groupsOf, List.mem_flatMap, List.mem_map] at hs
    obtain ⟨g, ⟨cls, _, rfl⟩, hs⟩ := hs
    obtain ⟨h3, h12, -⟩ := (mem_classIdx rows f t c cls s).mp hs
    exact ⟨h12.1, h12.2, h3⟩

/-- an accepted `LabelProbabilityInjector` call, taken apart: the plan is the one of `probPlan` for the
    resolved column; either the window is empty (nothing drawn, data returned as it is), or
    `np.random.choice` accepted the vector (no negative entry, sum within `2^-26` of one), `to - from`
    members of the population were drawn and the window rows are the drawn rows, in order. -/
theorem labelProb_inv (d d' : Data α) (f t : Nat) (col : Lbl) (cp : List (α × α)) (sample : List Nat)
    (plan : Plan α) (h : labelProb d f t col cp sample = .ok (d', plan)) :
    ∃ c, resolve d col = .ok c ∧ probPlan d.rows f t c cp = .ok plan ∧
      ((plan.grouped = [] ∧ sample = [] ∧ d' = d) ∨
       (plan.grouped ≠ [] ∧ (∀ x ∈ plan.p, ¬ x < zero) ∧ ¬ (choiceTol < absOf (sumL plan.p - one)) ∧
         sample.length = t - f ∧
         (∀ s ∈ sample, s ∈ plan.grouped) ∧
         d' = { d with rows := resampleRows d.rows f t sample })) := by
  unfold labelProb at h
  cases hc : resolve d col with
  | error e => simp [hc] at h
  | ok c =>
    cases hpl : probPlan d.rows f t c cp with
    | error e => simp [hc, hpl] at h
    | ok pl =>
      simp only [hc, hpl] at h
      refine ⟨c, rfl, ?_⟩
      by_cases he : pl.grouped.isEmpty = true
      · rw [if_pos he] at h
        by_cases hs : sample.isEmpty = true
        · rw [if_pos hs] at h
          cases h
          exact ⟨hpl, .inl ⟨List.isEmpty_iff.mp he, List.isEmpty_iff.mp hs, rfl⟩⟩
        · rw [if_neg hs] at h; cases h
      · rw [if_neg he, ite_error_eq_ok, ite_error_eq_ok, ite_error_eq_ok] at h
        obtain ⟨hneg, hsum, hv, h⟩ := h
        cases h
        simp only [not_or, Decidable.not_not, Bool.not_eq_true, Bool.not_eq_false', List.all_eq_true,
          List.contains_iff_mem] at hv
        simp only [List.any_eq_true, decide_eq_true_eq, not_exists, not_and] at hneg
        exact ⟨hpl, .inr ⟨mt List.isEmpty_iff.mpr he, hneg, hsum, hv.1, hv.2, rfl⟩⟩

/-- same container, labels, width and number of rows; rows outside the window untouched -/
theorem labelProb_frame (d d' : Data α) (f t : Nat) (col : Lbl) (cp : List (α × α)) (sample : List Nat)
    (plan : Plan α) (h : labelProb d f t col cp sample = .ok (d', plan)) :
    d'.labels = d.labels ∧ d'.width = d.width ∧ d'.rows.length = d.rows.length ∧
      ∀ i : Nat, ¬ (f ≤ i ∧ i < t) → d'.rows[i]? = d.rows[i]? := by
  obtain ⟨c, -, -, ⟨-, -, rfl⟩ | ⟨-, -, -, -, -, rfl⟩⟩ := labelProb_inv d d' f t col cp sample plan h
  · exact ⟨rfl, rfl, rfl, fun _ _ => rfl⟩
  · exact ⟨rfl, rfl, length_resampleRows .., fun i hi => resampleRows_outside d.rows f t sample i hi⟩

/-- **resampling spec.**  Row `i` of the window becomes the row whose number is the `(i - from)`-th draw, and
    every draw is a member of the population, i.e. a row of the window. -/
theorem labelProb_resample_spec (d d' : Data α) (f t : Nat) (col : Lbl) (cp : List (α × α))
    (sample : List Nat) (plan : Plan α) (h : labelProb d f t col cp sample = .ok (d', plan))
    (hne : plan.grouped ≠ []) (i : Nat) (hi : f ≤ i ∧ i < t) (hn : i < d.rows.length) :
    ∃ s, sample[i - f]? = some s ∧ (f ≤ s ∧ s < t) ∧ d'.rows[i]? = d.rows[s]? := by
  obtain ⟨c, -, hpl, ⟨he, -⟩ | ⟨-, -, -, hlen, hmem, rfl⟩⟩ := labelProb_inv d d' f t col cp sample plan h
  · exact absurd he hne
  · have hk : i - f < sample.length := hlen ▸ Nat.sub_lt_sub_right hi.1 hi.2
    have hs := List.getElem?_eq_getElem hk
    obtain ⟨h1, h2, h3⟩ := probPlan_grouped_mem d.rows f t c cp plan hpl _ (hmem _ (List.getElem_mem hk))
    exact ⟨_, hs, ⟨h1, h2⟩, resampleRows_inside d.rows f t sample i _ hi hn hs h3⟩

/-- every row of the window of the result is a row of the window of the input -/
theorem labelProb_rows_from_window (d d' : Data α) (f t : Nat) (col : Lbl) (cp : List (α × α))
    (sample : List Nat) (plan : Plan α) (h : labelProb d f t col cp sample = .ok (d', plan))
    (i : Nat) (hi : f ≤ i ∧ i < t) :
    ∃ j : Nat, (f ≤ j ∧ j < t) ∧ d'.rows[i]? = d.rows[j]? := by
  by_cases hn : i < d.rows.length
  · obtain ⟨c, -, -, ⟨-, -, rfl⟩ | ⟨hne, -⟩⟩ := labelProb_inv d d' f t col cp sample plan h
    · exact ⟨i, hi, rfl⟩
    · obtain ⟨s, -, hs, e⟩ := labelProb_resample_spec d d' f t col cp sample plan h hne i hi hn
      exact ⟨s, hs, e⟩
  · -- beyond the table both sides are `none`
    have hl := (labelProb_frame d d' f t col cp sample plan h).2.2.1
    exact ⟨i, hi, by
      rw [List.getElem?_eq_none (Nat.le_of_not_lt hn), List.getElem?_eq_none (hl ▸ Nat.le_of_not_lt hn)]⟩

/-- an accepted `LabelDirichletInjector` call is the `LabelProbabilityInjector` call on the drawn vector
    (the only other outcome is `badDraws`, for a vector that has not one entry per key) -/
theorem labelDirichlet_eq (d : Data α) (f t : Nat) (col : Lbl) (keys dir : List α) (sample : List Nat)
    (res : Data α × Plan α) (h : labelDirichlet d f t col keys dir sample = .ok res) :
    labelProb d f t col (keys.zip dir) sample = .ok res :=
  (ite_error_eq_ok.mp h).2

end prob

theorem validDraw_iff (n size : Nat) (ds : List Nat) :
    validDraw n size ds = true ↔ ds.length = n ∧ (∀ j ∈ ds, j < size) ∧ ds.Nodup := by
  simp only [validDraw, Bool.and_eq_true, beq_iff_eq, List.all_eq_true, decide_eq_true_eq, and_assoc]

/-- row numbers picked in one group: the drawn positions looked up in the group -/
def picksOf (idx ds : List Nat) : List Nat := ds.filterMap (idx[·]?)

theorem takeGroup_eq (rows : List (List α)) (c : Nat) (idx ds : List Nat) :
    takeGroup rows c idx ds = (picksOf idx ds).filterMap (fun i => (rows[i]?).map (·.eraseIdx c)) := by
  rw [takeGroup, picksOf, List.filterMap_filterMap]
  refine congrArg (List.filterMap · ds) (funext fun j => ?_)
  cases idx[j]? <;> rfl

/-- a valid draw picks `n` distinct members of the group (sampling without replacement) -/
theorem picksOf_spec (n : Nat) (idx ds : List Nat) (hidx : idx.Nodup)
    (hv : validDraw n idx.length ds = true) :
    (picksOf idx ds).length = n ∧ (picksOf idx ds).Nodup ∧ ∀ i ∈ picksOf idx ds, i ∈ idx := by
  obtain ⟨hl, hlt, hnd⟩ := (validDraw_iff ..).mp hv
  refine ⟨?_, hnd.filterMap fun a a' b hb hb' => ?_, fun i hi => ?_⟩
  · rw [picksOf, List.filterMap_length_eq_length.mpr, hl]
    exact fun j hj => by rw [List.getElem?_eq_getElem (hlt j hj)]; rfl
  · exact (List.getElem?_inj (List.getElem?_eq_some_iff.mp hb).1 hidx).mp (hb.trans hb'.symm)
  · obtain ⟨j, -, hj⟩ := List.mem_filterMap.mp hi
    exact List.mem_of_getElem? hj

theorem mem_takeGroup (rows : List (List α)) (c : Nat) (idx ds : List Nat) (r' : List α)
    (h : r' ∈ takeGroup rows c idx ds) :
    ∃ i ∈ idx, ∃ r, rows[i]? = some r ∧ r' = r.eraseIdx c := by
  simp only [takeGroup_eq, List.mem_filterMap, picksOf, Option.map_eq_some_iff] at h
  obtain ⟨i, ⟨j, -, hj⟩, r, hr, rfl⟩ := h
  exact ⟨i, List.mem_of_getElem? hj, r, hr, rfl⟩

theorem length_takeGroup (rows : List (List α)) (c n : Nat) (idx ds : List Nat)
    (hidx : ∀ i ∈ idx, i < rows.length) (hv : validDraw n idx.length ds = true) :
    (takeGroup rows c idx ds).length = n := by
  obtain ⟨hl, hlt, -⟩ := (validDraw_iff ..).mp hv
  unfold takeGroup
  rw [List.filterMap_length_eq_length.mpr, hl]
  intro j hj
  have h1 : j < idx.length := hlt j hj
  have h2 : idx[j] < rows.length := hidx _ (List.getElem_mem h1)
  simp [List.getElem?_eq_getElem h1, List.getElem?_eq_getElem h2]

/-- position `k` of the validity test that `featureCover` runs over groups and draws -/
theorem validDraw_of_all {n k : Nat} {gs ds : List (List Nat)} {g dr : List Nat}
    (hv : (List.zipWith (fun g d => validDraw n g.length d) gs ds).all id = true)
    (hg : gs[k]? = some g) (hdr : ds[k]? = some dr) : validDraw n g.length dr = true :=
  List.all_eq_true.mp hv _ (List.mem_of_getElem? (List.getElem?_zipWith_eq_some.mpr ⟨g, dr, hg, hdr, rfl⟩))

theorem mem_groupIdx [BEq α] (rows : List (List α)) (c : Nat) (key : α) (i : Nat) :
    i ∈ groupIdx rows c key ↔ i < rows.length ∧ cellIs rows c key i = true := by
  simp [groupIdx, List.mem_filter, List.mem_range]

theorem nodup_groupIdx [BEq α] (rows : List (List α)) (c : Nat) (key : α) : (groupIdx rows c key).Nodup :=
  List.Nodup.filter _ List.nodup_range

/-- a block of `featureCover`'s result: what a valid draw takes from the group of one of the keys -/
theorem mem_zipWith_takeGroup [BEq α] {rows : List (List α)} {c n : Nat} {keys : List α} {draws : List (List Nat)}
    {blk : List (List α)}
    (hv : (List.zipWith (fun g ds => validDraw n g.length ds) (keys.map (groupIdx rows c)) draws).all id = true)
    (hblk : blk ∈ List.zipWith (takeGroup rows c) (keys.map (groupIdx rows c)) draws) :
    blk.length = n ∧ ∀ r' ∈ blk, ∃ key ∈ keys, ∃ i r, rows[i]? = some r ∧ cellIs rows c key i = true ∧
      r' = r.eraseIdx c := by
  obtain ⟨k, hk⟩ := List.mem_iff_getElem?.mp hblk
  obtain ⟨g, ds, hg, hds, rfl⟩ := List.getElem?_zipWith_eq_some.mp hk
  obtain ⟨key, hkey, rfl⟩ := List.mem_map.mp (List.mem_of_getElem? hg)
  refine ⟨length_takeGroup _ _ _ _ _ (fun i hi => ((mem_groupIdx ..).mp hi).1) (validDraw_of_all hv hg hds),
    fun r' hr' => ?_⟩
  obtain ⟨i, hi, r, hr, rfl⟩ := mem_takeGroup _ _ _ _ _ hr'
  exact ⟨key, hkey, i, r, hr, ((mem_groupIdx ..).mp hi).2, rfl⟩

section cover
variable [LT α] [DecidableLT α] [BEq α]

/-- an accepted `FeatureCoverInjector` call, taken apart: one draw per group, every draw valid, and the
    result is the concatenation of what the draws take from their groups.  The two size tests it also
    passed (there is a group; no group is smaller than the sample) are not returned. -/
theorem featureCover_inv (d d' : Data α) (col : Lbl) (ss : Nat) (draws : List (List Nat))
    (h : featureCover d col ss draws = .ok d') :
    ∃ c, resolveDf d col = .ok c ∧
      draws.length = (unique (colOf c d.rows)).length ∧
      (List.zipWith (fun g ds => validDraw (ss / (unique (colOf c d.rows)).length) g.length ds)
        ((unique (colOf c d.rows)).map (groupIdx d.rows c)) draws).all id = true ∧
      d' = ⟨d.labels.map (·.eraseIdx c), d.width - 1,
        (List.zipWith (takeGroup d.rows c) ((unique (colOf c d.rows)).map (groupIdx d.rows c)) draws).flatten⟩ := by
  unfold featureCover at h
  cases hc : resolveDf d col with
  | error e => simp [hc] at h
  | ok c =>
    simp only [hc, ite_error_eq_ok] at h
    obtain ⟨-, -, hv, h⟩ := h
    simp only [not_or, Decidable.not_not, Bool.not_eq_true, Bool.not_eq_false', List.length_map] at hv
    exact ⟨c, rfl, hv.1, hv.2, (Except.ok.inj h).symm⟩

/-- **cover spec, block form.**  The result is the concatenation, in the order of the sorted group keys, of one
    block per group; the block of the `k`-th key consists of `sample_size // number of groups` *distinct* rows
    of the input whose hidden column equals that key (sampling without replacement), each with the column
    removed. -/
theorem featureCover_blocks (d d' : Data α) (col : Lbl) (ss : Nat) (draws : List (List Nat))
    (h : featureCover d col ss draws = .ok d') :
    ∃ c, resolveDf d col = .ok c ∧ ∃ picks : List (List Nat),
      picks.length = (unique (colOf c d.rows)).length ∧
      d'.rows = (picks.map (fun is => is.filterMap (fun i => (d.rows[i]?).map (·.eraseIdx c)))).flatten ∧
      ∀ (k : Nat) (key : α) (is : List Nat), (unique (colOf c d.rows))[k]? = some key → picks[k]? = some is →
        is.length = ss / (unique (colOf c d.rows)).length ∧ is.Nodup ∧
          ∀ i ∈ is, i < d.rows.length ∧ cellIs d.rows c key i = true := by
  obtain ⟨c, hc, hlen, hv, rfl⟩ := featureCover_inv d d' col ss draws h
  refine ⟨c, hc, List.zipWith picksOf ((unique (colOf c d.rows)).map (groupIdx d.rows c)) draws,
    by simp [hlen], ?_, fun k key is hkey his => ?_⟩
  · -- block by block, `takeGroup` looks up the rows of `picksOf`
    rw [List.map_zipWith]
    exact congrArg (fun g => (List.zipWith g _ draws).flatten) (funext₂ (takeGroup_eq d.rows c))
  · obtain ⟨g, dr, hg, hdr, rfl⟩ := List.getElem?_zipWith_eq_some.mp his
    have hv' := validDraw_of_all hv hg hdr
    rw [List.getElem?_map, hkey] at hg
    cases hg
    obtain ⟨h1, h2, h3⟩ := picksOf_spec _ _ dr (nodup_groupIdx d.rows c key) hv'
    exact ⟨h1, h2, fun i hi => (mem_groupIdx d.rows c key i).mp (h3 i hi)⟩

/-- **cover spec.**  The hidden column is dropped from labels and width; the result has
    `sample_size // number of groups` rows times the number of groups (that each group contributes that
    many is `featureCover_blocks`); every returned row is a row of the input with the column hidden. -/
theorem featureCover_spec (d d' : Data α) (col : Lbl) (ss : Nat) (draws : List (List Nat))
    (h : featureCover d col ss draws = .ok d') :
    ∃ c, resolveDf d col = .ok c ∧
      d'.labels = d.labels.map (·.eraseIdx c) ∧ d'.width = d.width - 1 ∧
      d'.rows.length = ss / (unique (colOf c d.rows)).length * (unique (colOf c d.rows)).length ∧
      ∀ r' ∈ d'.rows, ∃ key ∈ unique (colOf c d.rows), ∃ i r, d.rows[i]? = some r ∧
        cellIs d.rows c key i = true ∧ r' = r.eraseIdx c := by
  obtain ⟨c, hc, hlen, hv, rfl⟩ := featureCover_inv d d' col ss draws h
  refine ⟨c, hc, rfl, rfl, ?_, fun r' hr' => ?_⟩
  · rw [List.length_flatten, List.sum_eq_card_nsmul _ (ss / (unique (colOf c d.rows)).length), List.length_map,
      List.length_zipWith, List.length_map, hlen, Nat.min_self, nsmul_eq_mul, Nat.cast_id, Nat.mul_comm]
    intro x hx
    obtain ⟨blk, hblk, rfl⟩ := List.mem_map.mp hx
    exact (mem_zipWith_takeGroup hv hblk).1
  · obtain ⟨blk, hblk, hr'⟩ := List.mem_flatten.mp hr'
    exact (mem_zipWith_takeGroup hv hblk).2 r' hr'

end cover

section unique
variable {β : Type} [LinearOrder β]

theorem insertU_cons (x z : β) (zs : List β) :
    insertU x (z :: zs) = if x < z then x :: z :: zs else if z < x then z :: insertU x zs else z :: zs := rfl

theorem mem_insertU (x y : β) (l : List β) : y ∈ insertU x l ↔ y = x ∨ y ∈ l := by
  induction l with
  | nil => exact List.mem_singleton.trans (or_iff_left List.not_mem_nil).symm
  | cons z zs ih =>
    rw [insertU_cons]
    split
    next => rw [List.mem_cons]
    next h1 =>
      split
      next => rw [List.mem_cons, ih, List.mem_cons, or_left_comm]
      next h2 =>
        obtain rfl : x = z := le_antisymm (not_lt.mp h2) (not_lt.mp h1)
        rw [List.mem_cons, ← or_assoc, or_self]

theorem pairwise_insertU (x : β) (l : List β) (h : l.Pairwise (· < ·)) :
    (insertU x l).Pairwise (· < ·) := by
  induction l with
  | nil => exact List.pairwise_singleton _ _
  | cons z zs ih =>
    have h' := List.pairwise_cons.mp h
    rw [insertU_cons]
    split
    next h1 =>
      exact List.pairwise_cons.mpr
        ⟨fun a ha => (List.mem_cons.mp ha).elim (· ▸ h1) fun ha => lt_trans h1 (h'.1 a ha), h⟩
    next =>
      split
      next h2 =>
        exact List.pairwise_cons.mpr
          ⟨fun a ha => ((mem_insertU x a zs).mp ha).elim (· ▸ h2) (h'.1 a), ih h'.2⟩
      next => exact h

theorem unique_sorted (xs : List β) : (unique xs).Pairwise (· < ·) := by
  induction xs with
  | nil => exact List.Pairwise.nil
  | cons x xs ih => exact pairwise_insertU x _ ih

theorem unique_nodup (xs : List β) : (unique xs).Nodup :=
  (unique_sorted xs).imp ne_of_lt

theorem mem_unique_iff (xs : List β) (y : β) : y ∈ unique xs ↔ y ∈ xs := by
  induction xs with
  | nil => rfl
  | cons x xs ih => rw [unique, List.foldr_cons, mem_insertU, ← unique, ih, List.mem_cons]

end unique

section lookup
variable {β : Type} [BEq β]

theorem keyIn_iff [LawfulBEq β] (cp : List (β × β)) (k : β) : keyIn cp k = true ↔ k ∈ cp.map (·.1) := by
  simp only [keyIn, List.any_eq_true, List.mem_map, beq_iff_eq]

variable [NatCast β]

theorem probOf_cons (e : β × β) (cp : List (β × β)) (k : β) :
    probOf (e :: cp) k = if e.1 == k then e.2 else probOf cp k := by
  rw [probOf, List.find?_cons]
  cases e.1 == k <;> rfl

/-- the first dictionary that has the key decides -/
theorem probOf_append (cp ext : List (β × β)) (k : β) :
    probOf (cp ++ ext) k = if keyIn cp k then probOf cp k else probOf ext k := by
  induction cp with
  | nil => rfl
  | cons e cp ih =>
    rw [List.cons_append, probOf_cons, probOf_cons, ih]
    show _ = if (e.1 == k || keyIn cp k) = true then _ else _
    cases e.1 == k <;> rfl

variable [LawfulBEq β]

theorem probOf_const (us : List β) (v : β) (k : β) (hk : k ∈ us) :
    probOf (us.map (fun u => (u, v))) k = v := by
  induction us with
  | nil => cases hk
  | cons u us ih =>
    rw [List.map_cons, probOf_cons]
    by_cases h : u = k
    · rw [beq_iff_eq.mpr h, if_pos rfl]
    · rw [beq_eq_false_iff_ne.mpr h, if_neg Bool.false_ne_true,
        ih ((List.mem_cons.mp hk).resolve_left (Ne.symm h))]

/-- values of a dictionary with distinct keys, read back through its keys -/
theorem sum_probOf_keys [AddMonoid β] (cp : List (β × β)) (hnd : (cp.map (·.1)).Nodup) :
    ((cp.map (·.1)).map (probOf cp)).sum = (cp.map (·.2)).sum := by
  induction cp with
  | nil => rfl
  | cons e cp ih =>
    have hnd' := List.nodup_cons.mp hnd
    rw [List.map_cons, List.map_cons, List.map_cons, List.sum_cons, List.sum_cons, probOf_cons,
      beq_self_eq_true, if_pos rfl, ← ih hnd'.2]
    refine congrArg (e.2 + List.sum ·) (List.map_congr_left fun k hk => ?_)
    rw [probOf_cons, if_neg]
    exact fun h => hnd'.1 (show e.1 ∈ _ from beq_iff_eq.mp h ▸ hk)

/-- a class of the data keeps its specified probability, an unspecified one gets the common share -/
theorem probOf_fullOf [Add β] [Sub β] [Div β] [LT β] [DecidableLT β] (rows : List (List β)) (c : Nat)
    (cp : List (β × β)) (k : β) (hk : k ∈ unique (colOf c rows)) :
    probOf (fullOf rows c cp) k = if keyIn cp k then probOf cp k
      else (one - sumL (cp.map (·.2))) / (((undefOf rows c cp).length : Nat) : β) := by
  rw [fullOf, completeProbs, probOf_append]
  split
  · rfl
  · exact probOf_const _ _ k (List.mem_filter.mpr ⟨hk, by simp [*]⟩)

end lookup

theorem groups_map_probOf [LT α] [DecidableLT α] [BEq α] [NatCast α] (rows : List (List α)) (f t c : Nat)
    (full : List (α × α)) :
    ((groupsOf rows f t c).map (fun g => probOf full g.1)) = (unique (colOf c rows)).map (probOf full) := by
  rw [groupsOf, List.map_map]; rfl

section field
variable {K : Type} [Field K]

/-- Python's `sum` is the sum -/
theorem sumL_eq_sum (xs : List K) : sumL xs = xs.sum := by
  rw [sumL, zero, Nat.cast_zero, List.sum_eq_foldl]

/-- **shift spec.**  `delta = shift_factor * (alpha + window mean)`, the mean being the sum of the
    window's column over its length -/
theorem shiftDelta_eq (rows : List (List K)) (f t c : Nat) (sf al : K) :
    shiftDelta rows f t c sf al =
      sf * (al + (colOf c (window f t rows)).sum / ((colOf c (window f t rows)).length : K)) := by
  rw [shiftDelta, meanL, sumL_eq_sum, mul_comm]

/-- net number of up-steps among the draws -/
def net : List Bool → Int
  | [] => 0
  | u :: l => (if u then 1 else -1) + net l

theorem walkStep_eq [HasSqrt K] (steps : Nat) (up : Bool) :
    (walkStep steps up : K) = ((if up then 1 else -1 : Int) : K) / sqrt ((steps : Nat) : K) := by
  cases up <;> simp [walkStep, one]

theorem walkFrom_closed [HasSqrt K] (steps : Nat) (prev : K) (ds : List Bool) (k : Nat) (v : K)
    (hv : (prev :: walkFrom steps prev ds)[k]? = some v) :
    v = prev + ((net (ds.take k) : Int) : K) / sqrt ((steps : Nat) : K) := by
  induction k generalizing prev ds with
  | zero =>
    cases Option.some.inj hv
    rw [List.take_zero, net, Int.cast_zero, zero_div, add_zero]
  | succ k ih =>
    cases ds with
    | nil => cases hv
    | cons u ds =>
      rw [ih _ ds hv, walkStep_eq, List.take_succ_cons, net, Int.cast_add, add_div, add_assoc]

/-- **random-walk spec.**  The `k`-th noise value is `x0` plus the net number of up-steps among the first
    `k` draws, divided by `sqrt(steps)` (whatever `sqrt` is) -/
theorem randomWalk_closed [HasSqrt K] (steps : Nat) (x0 : K) (draws : List Bool) (k : Nat) (v : K)
    (hv : (randomWalk steps x0 draws)[k]? = some v) :
    v = x0 + ((net (draws.take k) : Int) : K) / sqrt ((steps : Nat) : K) := by
  by_cases hs : steps = 0
  · subst hs; cases hv
  · rw [randomWalk_of_ne hs] at hv
    rw [walkFrom_closed steps _ draws k v hv, one, Nat.cast_one, one_mul]

end field

section clamp
variable {K : Type} [Field K] [LinearOrder K]

/-- probability mass that the completed dictionary gives to the classes present in the window -/
def presentMass (full : List (K × K)) (groups : List (K × List Nat)) : K :=
  (groups.map (fun g => if g.2.length = 0 then 0 else probOf full g.1)).sum

theorem presentMass_eq (full : List (K × K)) (groups : List (K × List Nat))
    (hall : ∀ g ∈ groups, g.2.length ≠ 0) :
    presentMass full groups = (groups.map (fun g => probOf full g.1)).sum :=
  congrArg List.sum (List.map_congr_left fun g hg => if_neg (hall g hg))

theorem probOf_nonneg_of (cp' : List (K × K)) (h : ∀ e ∈ cp', 0 ≤ e.2) (k : K) : 0 ≤ probOf cp' k := by
  unfold probOf
  cases hf : cp'.find? (fun e => e.1 == k) with
  | none => simp [zero]
  | some e => exact h e (List.mem_of_find?_eq_some hf)

variable (rows : List (List K)) (f t c : Nat) (cp : List (K × K)) (plan : Plan K)

/-- nothing is clamped: every `p + p_leftover` is non-negative -/
def NoClamp : Prop := ∀ x ∈ rawPOf rows f t c cp, 0 ≤ x + leftoverOf rows f t c cp

/-- **non-negative, unconditionally**: every entry is `max(p + p_leftover, 0)` -/
theorem p_nonneg (h : probPlan rows f t c cp = .ok plan) : ∀ x ∈ plan.p, 0 ≤ x := by
  obtain ⟨_, h | h⟩ := probPlan_inv rows f t c cp plan h
  · rw [h.2]; simp
  · obtain ⟨_, rfl⟩ := h
    intro x hx
    simp only [List.mem_map] at hx
    obtain ⟨y, _, rfl⟩ := hx
    exact Nat.cast_zero.symm.trans_le (pyMax_pick _ _).2.2

theorem plan_p_of_noClamp (h : probPlan rows f t c cp = .ok plan) (hne : plan.grouped ≠ [])
    (hnc : NoClamp rows f t c cp) :
    plan.grouped = (groupsOf rows f t c).flatMap (·.2) ∧
      plan.p = (rawPOf rows f t c cp).map (· + leftoverOf rows f t c cp) := by
  obtain ⟨_, h | h⟩ := probPlan_inv rows f t c cp plan h
  · exact absurd (by rw [h.2]) hne
  · obtain ⟨_, rfl⟩ := h
    exact ⟨rfl, List.map_congr_left (fun x hx =>
      (pyMax_eq_max _ _).trans (max_eq_left (Nat.cast_zero.trans_le (hnc x hx))))⟩

end clamp

section dist
variable {K : Type} [Field K] [LinearOrder K] [IsStrictOrderedRing K]

theorem sum_replicate_div (k : Nat) (q l : K) (hk : k ≠ 0) :
    (List.replicate k (q / (k : K) + l)).sum = q + (k : K) * l := by
  rw [List.sum_replicate, nsmul_eq_mul, mul_add, mul_div_cancel₀ _ (Nat.cast_ne_zero.mpr hk)]

theorem rawP_sum (full : List (K × K)) (groups : List (K × List Nat)) :
    (rawP full groups).sum = presentMass full groups := by
  rw [rawP, List.flatMap_def, List.sum_flatten, List.map_map, presentMass]
  refine congrArg List.sum (List.map_congr_left fun g _ => ?_)
  rw [Function.comp, List.sum_replicate, nsmul_eq_mul]
  split
  next h => rw [h, Nat.cast_zero, zero_mul]
  next h => exact mul_div_cancel₀ _ (Nat.cast_ne_zero.mpr h)

theorem presentMass_le (full : List (K × K)) (groups : List (K × List Nat))
    (hq : ∀ g ∈ groups, 0 ≤ probOf full g.1) :
    presentMass full groups ≤ (groups.map (fun g => probOf full g.1)).sum :=
  List.sum_le_sum fun g hg => by split; exacts [hq g hg, le_rfl]

variable (rows : List (List K)) (f t c : Nat) (cp : List (K × K)) (plan : Plan K)

/-- the leftover is what the present classes' masses lack to one, spread over the window -/
theorem leftover_eq :
    leftoverOf rows f t c cp =
      (1 - presentMass (fullOf rows c cp) (groupsOf rows f t c)) /
        (((groupsOf rows f t c).flatMap (·.2)).length : K) := by
  simp [leftoverOf, rawPOf, sumL_eq_sum, rawP_sum, length_rawP, one]

theorem sum_unclamped (hg : (groupsOf rows f t c).flatMap (·.2) ≠ []) :
    ((rawPOf rows f t c cp).map (· + leftoverOf rows f t c cp)).sum = 1 := by
  rw [List.sum_map_add, List.map_id', List.map_const', List.sum_replicate, nsmul_eq_mul, leftoverOf, sumL_eq_sum,
    mul_div_cancel₀, one, Nat.cast_one, add_sub_cancel]
  rw [rawPOf, length_rawP]
  exact Nat.cast_ne_zero.mpr fun e => hg (List.eq_nil_of_length_eq_zero e)

/-- **what the clamp can do.**  Whatever the dictionary, the vector sums to at least one: clamping only
    raises entries (those with `p + p_leftover < 0` become 0).  Over a field this happens only for a
    negative specified probability or a specified sum inside the `1e-12` tolerance above one; at `Float`
    also through rounding of the sums. -/
theorem p_sum_ge_one (h : probPlan rows f t c cp = .ok plan) (hne : plan.grouped ≠ []) :
    1 ≤ plan.p.sum := by
  obtain ⟨_, h | h⟩ := probPlan_inv rows f t c cp plan h
  · exact absurd (by rw [h.2]) hne
  · obtain ⟨hg, rfl⟩ := h
    rw [← sum_unclamped rows f t c cp hg]
    exact List.sum_le_sum (fun x _ => (pyMax_pick _ _).2.1)

/-- if the completed dictionary is non-negative on the classes and the present classes' requested masses do
    not exceed one (leftover ≥ 0), nothing is clamped -/
theorem noClamp_of (hq : ∀ g ∈ groupsOf rows f t c, 0 ≤ probOf (fullOf rows c cp) g.1)
    (hm : presentMass (fullOf rows c cp) (groupsOf rows f t c) ≤ 1) : NoClamp rows f t c cp := by
  intro x hx
  obtain ⟨g, hg, -, rfl⟩ := (mem_rawP _ _ x).mp hx
  refine add_nonneg (div_nonneg (hq g hg) (Nat.cast_nonneg _)) ?_
  rw [leftover_eq]
  exact div_nonneg (sub_nonneg.mpr hm) (Nat.cast_nonneg _)

/-- **the per-sample distribution sums to one** when nothing is clamped (in particular when the leftover is
    non-negative and the dictionary is, see `noClamp_of`, `noClamp_of_dict`) -/
theorem p_sum_one (h : probPlan rows f t c cp = .ok plan) (hne : plan.grouped ≠ [])
    (hnc : NoClamp rows f t c cp) : plan.p.sum = 1 ∧ sumL plan.p = 1 := by
  obtain ⟨hgr, hp⟩ := plan_p_of_noClamp rows f t c cp plan h hne hnc
  have := sum_unclamped rows f t c cp (hgr ▸ hne)
  rw [hp, sumL_eq_sum]
  exact ⟨this, this⟩

/-- **class mass** (nothing clamped).  The vector is laid out class by class (same order as the population); the
    members of a class `g` present in the window share `class_probabilities[g] + |g| * leftover`: the requested
    mass, plus the class's per-sample share of whatever mass was requested for classes absent from the window.
    (The third conjunct is the sum of one such block, `sum_replicate_div`; it does not use the hypotheses.) -/
theorem p_class_mass (h : probPlan rows f t c cp = .ok plan) (hne : plan.grouped ≠ [])
    (hnc : NoClamp rows f t c cp) :
    plan.grouped = (groupsOf rows f t c).flatMap (·.2) ∧
    plan.p = (groupsOf rows f t c).flatMap (fun g => List.replicate g.2.length
        (probOf (fullOf rows c cp) g.1 / (g.2.length : K) + leftoverOf rows f t c cp)) ∧
    ∀ g ∈ groupsOf rows f t c, g.2.length ≠ 0 →
      (List.replicate g.2.length
        (probOf (fullOf rows c cp) g.1 / (g.2.length : K) + leftoverOf rows f t c cp)).sum =
        probOf (fullOf rows c cp) g.1 + (g.2.length : K) * leftoverOf rows f t c cp := by
  obtain ⟨hgr, hp⟩ := plan_p_of_noClamp rows f t c cp plan h hne hnc
  refine ⟨hgr, ?_, fun g _ hk => sum_replicate_div _ _ _ hk⟩
  rw [hp]
  simp only [rawPOf]
  exact rawP_map _ _ _

/-- when the classes present in the window are given mass one, nothing is left over (for when that is,
    see `leftover_zero_of_all_present`) -/
theorem leftover_zero (hm : presentMass (fullOf rows c cp) (groupsOf rows f t c) = 1) :
    leftoverOf rows f t c cp = 0 := by
  rw [leftover_eq, hm]; simp

end dist

section complete
-- `pairwise_unique`, `mem_unique` (general forms: `unique_sorted`, `mem_unique_iff`) and `probPlan_keys_subset` are
-- stated for the carrier of this section and use less of it
set_option linter.unusedSectionVars false
variable {K : Type} [Field K] [LinearOrder K] [IsStrictOrderedRing K]

theorem pairwise_unique (xs : List K) : (unique xs).Pairwise (· < ·) := unique_sorted xs

theorem mem_unique (xs : List K) (y : K) : y ∈ unique xs ↔ y ∈ xs := mem_unique_iff xs y

/-- an accepted dictionary only names classes of the data -/
theorem probPlan_keys_subset (rows : List (List K)) (f t c : Nat) (cp : List (K × K)) (plan : Plan K)
    (h : probPlan rows f t c cp = .ok plan) : ∀ k ∈ cp.map (·.1), k ∈ unique (colOf c rows) := by
  rw [probPlan_eq, ite_error_eq_ok, ite_error_eq_ok] at h
  have hs := h.2.1
  simp only [sameSet, Bool.not_eq_true, Bool.not_eq_false', Bool.and_eq_true, List.all_eq_true,
    List.contains_iff_mem, List.mem_append] at hs
  exact fun k hk => hs.2 k (.inl hk)

/-- over the classes of the data the completed dictionary sums to the specified mass plus — when some class is
    unspecified — everything that is missing to one -/
theorem sum_full_classes (rows : List (List K)) (c : Nat) (cp : List (K × K))
    (hnd : (cp.map (·.1)).Nodup) (hsub : ∀ k ∈ cp.map (·.1), k ∈ unique (colOf c rows)) :
    ((unique (colOf c rows)).map (probOf (fullOf rows c cp))).sum =
      (cp.map (·.2)).sum + (if undefOf rows c cp = [] then 0 else 1 - (cp.map (·.2)).sum) := by
  rw [List.map_congr_left (fun k hk => probOf_fullOf rows c cp k hk), List.sum_map_ite]
  congr 1
  · -- the specified classes are the keys of the dictionary, in another order
    rw [← sum_probOf_keys cp hnd]
    refine (List.Perm.map _ ((List.perm_ext_iff_of_nodup ((unique_nodup _).filter _) hnd).mpr fun k => ?_)).sum_eq
    rw [List.mem_filter, decide_eq_true_eq, keyIn_iff]
    exact ⟨fun h => h.2, fun h => ⟨hsub k h, h⟩⟩
  · -- the unspecified classes share what is missing to one
    rw [List.filter_congr (q := fun k => !keyIn cp k) fun k _ => by simp, ← undefOf, List.map_const',
      List.sum_replicate, nsmul_eq_mul, sumL_eq_sum, one, Nat.cast_one]
    split
    next h => rw [h, List.length_nil, Nat.cast_zero, zero_mul]
    next h => exact mul_div_cancel₀ _ (Nat.cast_ne_zero.mpr (mt List.eq_nil_of_length_eq_zero h))

variable (rows : List (List K)) (f t c : Nat) (cp : List (K × K)) (plan : Plan K)

/-- **nothing is clamped, from the caller's side.**  A dictionary with distinct keys, non-negative values and
    sum at most one (the documented domain; the code additionally lets sums up to `1 + 1e-12` pass) that names
    only classes of the data: every `p + p_leftover` is non-negative, so `p_sum_one` / `p_class_mass` apply. -/
theorem noClamp_of_dict (h : probPlan rows f t c cp = .ok plan)
    (hnd : (cp.map (·.1)).Nodup) (hv : ∀ e ∈ cp, 0 ≤ e.2) (hsum : (cp.map (·.2)).sum ≤ 1) :
    NoClamp rows f t c cp := by
  have hsub := probPlan_keys_subset rows f t c cp plan h
  have hfull : ∀ e ∈ fullOf rows c cp, 0 ≤ e.2 := by
    intro e he
    rcases List.mem_append.mp he with he | he
    · exact hv e he
    · obtain ⟨u, _, rfl⟩ := List.mem_map.mp he
      rw [sumL_eq_sum, one, Nat.cast_one]
      exact div_nonneg (sub_nonneg.mpr hsum) (Nat.cast_nonneg _)
  have hq := fun (g : K × List Nat) (_ : g ∈ groupsOf rows f t c) => probOf_nonneg_of _ hfull g.1
  refine noClamp_of rows f t c cp hq ((presentMass_le _ _ hq).trans ?_)
  rw [groups_map_probOf, sum_full_classes rows c cp hnd hsub]
  split
  · rwa [add_zero]
  · rw [add_sub_cancel]

/-- **exact class masses.**  If every class of the data occurs in the window and either some class is left
    unspecified or the specified probabilities sum to one, the leftover is zero: by `p_class_mass` every class
    then gets exactly `class_probabilities[class]` (its specified value, or an equal share of what is missing). -/
theorem leftover_zero_of_all_present (h : probPlan rows f t c cp = .ok plan)
    (hnd : (cp.map (·.1)).Nodup) (hall : ∀ g ∈ groupsOf rows f t c, g.2.length ≠ 0)
    (hspec : undefOf rows c cp ≠ [] ∨ (cp.map (·.2)).sum = 1) :
    leftoverOf rows f t c cp = 0 := by
  apply leftover_zero
  rw [presentMass_eq _ _ hall, groups_map_probOf,
    sum_full_classes rows c cp hnd (probPlan_keys_subset rows f t c cp plan h)]
  rcases hspec with hu | hs
  · rw [if_neg hu, add_sub_cancel]
  · rw [hs, sub_self, ite_self, add_zero]

end complete

section examples

/-- window `[1,3)` of a 3×2 ndarray, columns 0 and 1 exchanged; row 0 untouched -/
example : featureSwap (α := Int) ⟨none, 2, [[1, 2], [3, 4], [5, 6]]⟩ 1 3 (.int 0) (.int 1)
    = .ok ⟨none, 2, [[1, 2], [4, 3], [6, 5]]⟩ := rfl

/-- a DataFrame column is addressed by its label; `get_loc` of an unknown label is a `KeyError` -/
example : featureSwap (α := Int) ⟨some [.str "a", .str "b"], 2, [[1, 2]]⟩ 0 1 (.str "b") (.str "zz")
    = .error .key := rfl

example : labelSwap (α := Int) ⟨some [.str "a", .str "y"], 2, [[1, 0], [3, 1], [5, 2], [7, 1]]⟩ 0 3 (.str "y") 0 1
    = .ok ⟨some [.str "a", .str "y"], 2, [[1, 1], [3, 0], [5, 2], [7, 1]]⟩ := rfl

example : labelJoin (α := Int) ⟨none, 2, [[1, 0], [3, 1], [5, 2], [7, 1]]⟩ 1 4 (.int 1) 1 2 9
    = .ok ⟨none, 2, [[1, 0], [3, 9], [5, 9], [7, 9]]⟩ := rfl

/-- shift over ℚ: window mean 3, `delta = (1/8 + 3) * 2` -/
example : featureShift (α := ℚ) ⟨none, 1, [[1], [2], [4], [8]]⟩ 1 3 (.int 0) 2 (1/8)
    = .ok ⟨none, 1, [[1], [2 + 25/4], [4 + 25/4], [8]]⟩ := by
  -- evaluation; plain `rfl` stops at the arithmetic of `ℚ`, which is irreducible
  with_unfolding_all rfl

local instance : HasSqrt Int := ⟨fun x => x⟩ in
/-- three steps, two draws: the hypotheses of `brownian_frame` / `brownian_spec` are satisfiable -/
example : ∃ d', brownian (α := Int) ⟨none, 1, [[1], [2], [4], [8]]⟩ 1 4 (.int 0) 5 [true, false] = .ok d' :=
  ⟨_, rfl⟩

/-- four rows with classes 0,1,1,2; the window `[0,3)` lacks class 2.  `{0: 1/2}` leaves 1/4 each to classes
    1 and 2; class 2's quarter is spread over the three window samples (1/12 each):
    class 0 gets 1/2 + 1/12, class 1 gets 1/4 + 2/12 -/
example : probPlan (α := ℚ) [[0], [1], [1], [2]] 0 3 0 [(0, 1/2)]
    = .ok ⟨[0, 1, 2], [7/12, 5/24, 5/24]⟩ := by
  with_unfolding_all rfl

/-- all classes present: every class gets exactly the requested mass -/
example : probPlan (α := ℚ) [[0], [1], [1], [2]] 0 4 0 [(0, 1/2)]
    = .ok ⟨[0, 1, 2, 3], [1/2, 1/8, 1/8, 1/4]⟩ := by
  with_unfolding_all rfl

/-- specified probabilities that sum to more than one (here 5/4) are rejected -/
example : probPlan (α := ℚ) [[0], [1]] 0 2 0 [(0, 3/4), (1, 1/2)] = .error .value := by
  with_unfolding_all rfl

/-- the drawn rows (2, 2, 0) replace the window `[0,3)`; row 3 stays -/
example : labelProb (α := ℚ) ⟨none, 2, [[10, 0], [11, 1], [12, 1], [13, 2]]⟩ 0 3 (.int 1) [] [2, 2, 0]
    = .ok (⟨none, 2, [[12, 1], [12, 1], [10, 0], [13, 2]]⟩, ⟨[0, 1, 2], [4/9, 5/18, 5/18]⟩) := by
  with_unfolding_all rfl

/-- groups 0 and 1 (sorted), `5 // 2 = 2` rows each, positions drawn inside each group, column 1 hidden -/
example : featureCover (α := Int) ⟨some [.str "a", .str "y"], 2, [[10, 1], [11, 0], [12, 1], [13, 0], [14, 1]]⟩
    (.str "y") 5 [[1, 0], [2, 0]]
    = .ok ⟨some [.str "a"], 1, [[13], [11], [14], [10]]⟩ := rfl

/-- a draw that repeats a position is not a sample without replacement -/
example : featureCover (α := Int) ⟨none, 2, [[10, 1], [11, 0], [12, 1], [13, 0]]⟩ (.int 1) 4 [[0, 0], [0, 1]]
    = .error .badDraws := rfl

end examples
end MV.Inject
