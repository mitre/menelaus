/-
  C18 (kdq-tree part) — non-vacuity over ℚ (demo configurations and instances of `Props/C08Examples.lean`,
  `Props/C09Examples.lean`): a batch and a rearrangement of it; why the order and `==` laws are needed; two `KdqTreeBatch`
  histories on row-permuted batches with the same trace; the law-free theorems at the executed `Float` carrier.
-/
import MenelausVerif.Props.C18Kdq
import MenelausVerif.Props.C09Examples

namespace MV.Kdq.C18
open MV MV.Kdq

section examples

/-- five 2-d rows (one duplicated) and a rearrangement of them -/
def exD : List (List ℚ) := [[0, 3], [1, 2], [2, 1], [3, 0], [1, 2]]
def exD' : List (List ℚ) := [[1, 2], [3, 0], [0, 3], [1, 2], [2, 1]]
theorem exD_perm : exD.Perm exD' := by decide +kernel

/-- `build_perm` applies, and the tree it speaks about is a real one (three splits, four leaves) -/
example : build exCfg 2 exD = build exCfg 2 exD' := build_perm exCfg 2 exD_perm
example : (build exCfg 2 exD).map (fun t => (t.numLeaves, leafCountsD t 0)) = some (4, [2, 1, 1, 1]) := by
  decide +kernel
example : stops 1 [0, 0] exD 0 = false ∧ midpoint exD 0 = 3 / 2 ∧ uniqueCount exD.flatten = 4 ∧
    (exD.filter (goesUp 0 (3 / 2))).length = 2 := by decide +kernel

/-- `kl_distance_perm` for a batch and a rearrangement of it, on any tree; and one fill of the tree above -/
example (t : Tree ℚ) : (klDistance? (fill 1 true exD t) 0 1 : Res ℚ) = klDistance? (fill 1 true exD' t) 0 1 :=
  kl_distance_perm 1 true t exD_perm 0 1
example : (build exCfg 2 exD).map (fun t => leafCountsD (fill 1 true [[0, 0], [3, 3], [0, 1], [0, 3]] t) 1) =
    some [2, 1, 0, 1] := by decide +kernel

structure Pt where
  a : Nat
  b : Nat
  deriving DecidableEq
instance : Inhabited Pt := ⟨⟨0, 0⟩⟩
instance : LT Pt := ⟨fun p q => p.a < q.a ∧ p.b < q.b⟩
instance : DecidableLT Pt := fun p q => inferInstanceAs (Decidable (p.a < q.a ∧ p.b < q.b))
/-- a linear order is needed for `minOf_perm`: with the (non-total) componentwise strict order on
    pairs the fold keeps whichever incomparable element comes first -/
example : minOf [(⟨0, 1⟩ : Pt), ⟨1, 0⟩] ≠ minOf [(⟨1, 0⟩ : Pt), ⟨0, 1⟩] := by decide

structure Near where
  v : Nat
instance : BEq Near := ⟨fun p q => decide (p.v ≤ q.v + 1 ∧ q.v ≤ p.v + 1)⟩
/-- transitivity of `==` is needed for `uniqueCount_perm`: with "differ by at most one" as `==`
    the count of `0, 1, 2` is 2 but that of `1, 0, 2` is 1 -/
example : uniqueCount [(⟨0⟩ : Near), ⟨1⟩, ⟨2⟩] = 2 ∧ uniqueCount [(⟨1⟩ : Near), ⟨0⟩, ⟨2⟩] = 1 := by decide

end examples

end MV.Kdq.C18

namespace MV.KdqDet.C18
open MV MV.Kdq MV.KdqDet MV.C18 MV.Kdq.C18

section examples

/-- a history with everything in it: the first `update` adopts its batch as the reference (4 leaves);
    a balanced batch does not exceed; a batch concentrated in one cell exceeds (drift; it is remembered);
    the next `update` rebuilds the tree from the remembered batch (2 leaves) and its batch exceeds again;
    `set_reference` clears the drift; a last batch exceeds. -/
def opsA : List (BOp ℚ) :=
  [.update 1 [[0], [1], [2], [3]] [[0, 1, 2, 3, 0, 1, 2, 3], [0, 1, 2, 3, 3, 2, 1, 0], [0, 0, 1, 1, 2, 2, 3, 3]],
   .update 1 [[1], [3], [0], [2]] [],
   .update 1 [[0], [0], [1/2], [0]] [],
   .update 1 [[1/2], [1/2], [0]] [[0, 0, 0, 1, 0, 0, 1, 0]],
   .setRef 1 [[5], [7]] [[0, 1, 1, 0]],
   .update 1 [[5], [6]] []]
/-- the same calls with the rows of every batch (reference batches included) rearranged -/
def opsB : List (BOp ℚ) :=
  [.update 1 [[3], [1], [0], [2]] [[0, 1, 2, 3, 0, 1, 2, 3], [0, 1, 2, 3, 3, 2, 1, 0], [0, 0, 1, 1, 2, 2, 3, 3]],
   .update 1 [[2], [0], [3], [1]] [],
   .update 1 [[1/2], [0], [0], [0]] [],
   .update 1 [[0], [1/2], [1/2]] [[0, 0, 0, 1, 0, 0, 1, 0]],
   .setRef 1 [[7], [5]] [[0, 1, 1, 0]],
   .update 1 [[6], [5]] []]

theorem ops_rel : List.Forall₂ OpRel opsA opsB := by
  refine .cons ⟨rfl, ?_, rfl⟩ (.cons ⟨rfl, ?_, rfl⟩ (.cons ⟨rfl, ?_, rfl⟩ (.cons ⟨rfl, ?_, rfl⟩
    (.cons ⟨rfl, ?_, rfl⟩ (.cons ⟨rfl, ?_, rfl⟩ .nil)))))
  all_goals decide +kernel

/-- `kdqBatch_trace_perm` applies to the two histories -/
example : bTrace exB bInit opsA = bTrace exB bInit opsB := kdqBatch_fresh_perm exB ops_rel

/-- the common trace is not trivial: no recursion failure, both decisions occur, two reference
    rebuilds after a drift, leaf counts of the rebuilt trees.  The divergences are values of the
    surrogate `log` that `Props/C09Examples.lean` gives ℚ, not Kullback-Leibler values. -/
example : (bTrace exB bInit opsA).map (fun o => o.map (fun o => (o.event, o.drift, o.testDist))) =
    [some (none, .none, none), some (some false, .none, some 0), some (some true, .drift, some (4 / 3)),
     some (some true, .drift, some (169 / 375)), some (none, .none, none), some (some true, .drift, some (4 / 5))] := by
  decide +kernel
example : (bTrace exB bInit opsA).map (fun o => o.map (fun o =>
      o.tree.map (fun t => (leafCountsD t 0, leafCountsD t 1)))) =
    [some (some ([1, 1, 1, 1], [0, 0, 0, 0])), some (some ([1, 1, 1, 1], [1, 1, 1, 1])),
     some (some ([1, 1, 1, 1], [4, 0, 0, 0])), some (some ([3, 1], [1, 2])),
     some (some ([1, 1], [0, 0])), some (some ([1, 1], [2, 0]))] := by decide +kernel

/-- **equality of states is too strong**: after the third call the two runs remember the drifted batch
    in their own row orders (`BRel` relates them, `=` does not) -/
example : (bRun exB bInit (opsA.take 3)).map (·.refData) = some (some [[0], [0], [1/2], [0]]) ∧
    (bRun exB bInit (opsB.take 3)).map (·.refData) = some (some [[1/2], [0], [0], [0]]) := by decide +kernel

/-- `bStep_perm` with a pending drift (the step that adopts the remembered batch): its hypotheses hold
    for the states reached after three calls -/
example : OptRel BRel (bRun exB bInit (opsA.take 3)) (bRun exB bInit (opsB.take 3)) :=
  bRun_perm exB (BRel.refl _) (List.forall₂_take 3 ops_rel)

/-- the hypotheses of `bStep_perm_nobuild` (no pending drift, a tree in place) hold after the first call -/
example : (bRun exB bInit (opsA.take 1)).map (fun s => (decide (s.drift ≠ .drift) && s.tree.isSome)) = some true := by
  decide +kernel

/-- `bStep_perm_nobuild` and `fill_perm` instantiate at the executed `Float` carrier -/
example (c : BCfg Float) (s : BState Float) (m : Nat) {X X' : List (List Float)} (h : X.Perm X')
    (draws : List (List Nat)) (hd : s.drift ≠ .drift) {t : Kdq.Tree Float} (ht : s.tree = some t) :
    ∃ r r', bStep c s m X draws = some r ∧ bStep c s m X' draws = some r' ∧ StepRel r r' :=
  bStep_perm_nobuild c (BRel.refl s) m h draws hd ht
example (t : Kdq.Tree Float) {X X' : List (List Float)} (h : X.Perm X') :
    fill testId true X t = fill testId true X' t := fill_perm _ _ t h

end examples

end MV.KdqDet.C18
