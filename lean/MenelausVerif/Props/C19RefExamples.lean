/-
  C19, the reference statistics of `Model/MD3Ref.lean` on concrete folds: the counter-example with unequal fold
  sizes (the fold mean is not the pooled ratio), histories on which the hypotheses of the theorems of
  `Props/C19Ref.lean` hold, numpy's summation on its 8-lane and recursive branches; at ℚ with a square root that is
  exact on squares, and the hypothesis on `sqrt` at ℝ.
-/
import MenelausVerif.Props.C19Ref
import Mathlib.Analysis.Real.Sqrt
namespace MV.MD3
open MV

/-- exact on squares of rationals; only used to evaluate the closed examples below -/
local instance ratSqrt : HasSqrt ℚ := ⟨fun q => (Nat.sqrt q.num.toNat : ℚ) / (Nat.sqrt q.den : ℚ)⟩

/-- 2 folds of sizes 1 and 3: the only in-margin sample is alone in its fold -/
def exUnequal : List Fold := [[(true, true)], [(false, true), (false, false), (false, true)]]
/-- 2 folds of size 2 -/
def exEqual : List Fold := [[(true, true), (false, true)], [(false, false), (false, true)]]

/-- **counter-example (unequal fold sizes)**: the fold mean is not the pooled ratio — md is
    (1/1 + 0/3)/2 = 1/2 whereas 1 of the 4 samples is in the margin; acc is (1 + 2/3)/2 = 5/6
    whereas 3 of 4 are correct.  (A regression that pools the samples before dividing is visible
    exactly here.) -/
theorem fold_mean_ne_pooled :
    (refStats exUnequal : Ref ℚ).md = 1 / 2 ∧
    (inCount exUnequal.flatten : ℚ) / ((refStats exUnequal : Ref ℚ).len : ℚ) = 1 / 4 ∧
    (refStats exUnequal : Ref ℚ).acc = 5 / 6 ∧
    (okCount exUnequal.flatten : ℚ) / ((refStats exUnequal : Ref ℚ).len : ℚ) = 3 / 4 ∧
    (refStats exUnequal : Ref ℚ).len = 4 := by decide +kernel

-- the whole summary of `exUnequal`: md = 1/2 ± 1/2, acc = 5/6 ± 1/6 (population deviation, divisor k = 2)
example : (refStats exUnequal : Ref ℚ).mdStd = 1 / 2 ∧ (refStats exUnequal : Ref ℚ).accStd = 1 / 6 ∧
    (mdVar exUnequal : ℚ) = 1 / 4 ∧ (accVar exUnequal : ℚ) = 1 / 36 := by decide +kernel
-- equal folds (hypothesis of `refStats_pooled_of_equal_folds` with m = 2): md = (1/2 + 0)/2 = 1/4 = 1 of 4
example : (∀ f ∈ exEqual, f.length = 2) ∧ (refStats exEqual : Ref ℚ).md = 1 / 4 ∧
    (refStats exEqual : Ref ℚ).acc = 3 / 4 ∧ (refStats exEqual : Ref ℚ).len = 4 := by decide +kernel
-- `mdVar_mul_k` / `std_sq_mul_k`: folds ≠ [] is satisfiable and the deviations are not all zero
example : exEqual ≠ [] ∧ (mdVar exEqual : ℚ) * 2 = 1 / 8 ∧ (refStats exEqual : Ref ℚ).mdStd = 1 / 4 := by
  decide +kernel
-- `refStats_perm_within` (and `refStats_perm_folds`: `exUnequal.reverse` is a permutation of `exUnequal`)
example : List.Forall₂ List.Perm exEqual [[(false, true), (true, true)], [(false, true), (false, false)]] :=
  .cons (List.Perm.swap _ _ _) (.cons (List.Perm.swap _ _ _) .nil)

-- the 8-lane branch and the remainder loop of numpy's summation are exercised: 11 folds
def exEleven : List Fold :=
  [[(true, true)], [(false, true)], [(true, false)], [(false, false)], [(true, true)], [(false, true)],
   [(true, true)], [(false, true)], [(true, false)], [(true, true), (false, false)], [(false, true), (false, true), (true, true)]]
example : (refStats exEleven : Ref ℚ).md = (5 + 1 / 2 + 1 / 3) / 11 ∧ (refStats exEleven : Ref ℚ).len = 14 := by
  decide +kernel

-- the recursive branch (more than 128 folds: split at 144 = 300/2 rounded down to a multiple of 8)
example : npSum (List.replicate 300 (1 / 3 : ℚ)) = 100 ∧ pwSplit 300 = 144 ∧
    pairwiseSum 1000 (List.replicate 300 (1 / 3 : ℚ)) = 100 := by decide +kernel

/-- a reference of 4 rows in 2 folds, then a history with one complete oracle round (N = 2) whose
    adopted batch has folds of sizes 1 and 1 -/
def exCfgF : Cfg ℚ := { sens := 1, oracleLen := some 2, refCols := [1, 2, 3] }
def exNewFolds : List Fold := [[(true, false)], [(true, true)]]
def exOpsF : List OpF :=
  [.update 1 true, .update 1 true, .label 1 [1, 4, 3] true exNewFolds, .label 1 [3, 1, 2] false exNewFolds,
   .label 1 [1, 2, 3] true exNewFolds, .update 1 false]

-- `refStats_connection` / `inv_reachableF`: hypothesis satisfiable
example : 0 < exCfgF.oracleLen.getD (totalLen exEqual) := by decide
-- the run (reference md 1/4 ± 1/4, acc 3/4 ± 1/4, λ = 3/4): md 7/16 (deviation 3/16, no warning), md 37/64
-- (deviation 21/64 > 1/4: warning); a refused label (renamed column), two accepted ones (accuracy 1/2: the drop
-- 1/4 is not more than 1·1/4, drift ruled out); the decision adopts `refStats exNewFolds` (md 1 ± 0,
-- acc 1/2 ± 1/2, len 2, λ = 1/2) and the next update starts from md = 1
example : (runF exCfgF (initF exCfgF exEqual) (exOpsF.take 2)).waiting = true ∧
    (runF exCfgF (initF exCfgF exEqual) (exOpsF.take 5)).ref.len = 2 ∧
    (runF exCfgF (initF exCfgF exEqual) (exOpsF.take 5)).ref.acc = 1 / 2 ∧
    (runF exCfgF (initF exCfgF exEqual) (exOpsF.take 5)).ref.accStd = 1 / 2 ∧
    (runF exCfgF (initF exCfgF exEqual) (exOpsF.take 5)).lam = 1 / 2 ∧
    (runF exCfgF (initF exCfgF exEqual) (exOpsF.take 5)).md = 1 ∧
    (runF exCfgF (initF exCfgF exEqual) (exOpsF.take 5)).waiting = false ∧
    (runF exCfgF (initF exCfgF exEqual) (exOpsF.take 5)).drift = .none ∧
    (runF exCfgF (initF exCfgF exEqual) (exOpsF.take 1)).md = 7 / 16 ∧
    (runF exCfgF (initF exCfgF exEqual) (exOpsF.take 2)).md = 37 / 64 ∧
    (runF exCfgF (initF exCfgF exEqual) exOpsF).md = 1 / 2 := by decide +kernel
-- `oracle_roundF`: its hypotheses hold in the state where the warning was raised
example : (runF exCfgF (initF exCfgF exEqual) (exOpsF.take 2)).labels = [] ∧
    (labelBits exCfgF (((exOpsF.drop 2).take 2).map OpF.toOp)).length + 1
      = (runF exCfgF (initF exCfgF exEqual) (exOpsF.take 2)).oracleReq ∧
    sameColumns [1, 2, 3] exCfgF.refCols = true := by decide +kernel

-- `std_sq_mul_k`: its hypothesis on `sqrt` holds for the real square root
noncomputable local instance realHasSqrtC19 : HasSqrt ℝ := ⟨Real.sqrt⟩
example : ∀ x : ℝ, 0 ≤ x → sqrt x * sqrt x = x := fun _ hx => Real.mul_self_sqrt hx

end MV.MD3
