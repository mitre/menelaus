/-
  C03 — a manual `reset()` between updates (public API; `StreamingEnsemble.reset()` calls it on every
  member) does not touch ADWIN's window, its statistics or its check schedule.
  Law-free: valid for every carrier, hence for the executed `Float` instance.
-/
import MenelausVerif.Lemmas.AdwinStruct
namespace MV.Adwin
-- every statement takes the carrier classes of `step`, though `reset` needs none of them
set_option linter.unusedSectionVars false

variable {α : Type} [Add α] [Sub α] [Mul α] [Div α] [Neg α] [LT α] [DecidableLT α]
  [NatCast α] [HasSqrt α] [HasLogExp α]

theorem reset_frame (s : State α) :
    (reset s).rows = s.rows ∧ (reset s).W = s.W ∧ (reset s).total = s.total ∧ (reset s).sum = s.sum ∧
    (reset s).var = s.var ∧ (reset s).drift = .none ∧ (reset s).recs = Recs.empty :=
  ⟨rfl, rfl, rfl, rfl, rfl, rfl, rfl⟩

theorem reset_idem (s : State α) : reset (reset s) = reset s := rfl

/-- the update after a manual reset is the update of the un-reset detector: the update clears a pending
    drift state itself.  `h` holds in every reachable state: it is `SInv.recs`. -/
theorem step_reset (c : Cfg α) (s : State α) (x : α) (h : s.recs = Recs.empty ∨ s.drift ≠ .none) :
    step c (reset s) x = step c s x := by
  have hr : (if s.drift = .none then s.recs else Recs.empty) = Recs.empty := by
    split
    · next hd => exact h.resolve_right (fun h => h hd)
    · rfl
  rw [step_eq, step_eq, afterAdd_eq, afterAdd_eq, hr]
  -- on the left the `recs` chosen for `reset s` is `Recs.empty` by computation; the other fields of `reset s` are `s`'s
  rfl

/-- the guard `total_samples % new_sample_thresh = 0` is evaluated on the same `total_samples`: a reset never
    shifts the checks -/
theorem scheduled_reset (c : Cfg α) (s : State α) : scheduled c (reset s) = scheduled c s := rfl

end MV.Adwin
