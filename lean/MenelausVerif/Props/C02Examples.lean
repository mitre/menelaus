/-
  C02, histories on which the hypotheses hold: for the kdq-tree detectors (`Props/C02Kdq.lean`; rational
  carrier, the example detectors and the surrogate `log` / rounding instances of `Props/C09Examples.lean`) and
  for NNDVI (`Props/C02Models.lean`; the demo data of `Props/C10.lean`).
-/
import MenelausVerif.Props.C02Kdq
import MenelausVerif.Props.C02Models
import MenelausVerif.Props.C09Examples
import MenelausVerif.Props.C10

section examples
open MV MV.KdqDet

namespace MV.KdqStream

/-- the history of `Props/C09Examples.lean` ends in a drift (building, built, waiting, two exceeding
    evaluations), and so does the same block fed again: a history with two drifts, cut at both -/
theorem ex_driftsAt : DriftsAt exS sInit [exIn.take 5, exIn.take 5] :=
  driftsAt_of_prefixes _ _ _ (by decide) (by decide +kernel)

/-- the hypotheses of `twin` / `twin_history` hold for that history … -/
example : (run exS sInit (exIn.take 5)).map (fun s => (s.drift, s.total)) = some (.drift, 5) := by
  decide +kernel

/-- … and `twin_epochs` applies: e.g. the 12 observations of the running detector on
    block, block, 2 further samples are those of three fresh detectors -/
example : trace exS sInit ([exIn.take 5, exIn.take 5].flatten ++ exIn.take 2) =
    freshTraces exS 0 [exIn.take 5, exIn.take 5] ++ (trace exS sInit (exIn.take 2)).map (shiftObs 10) :=
  (twin_epochs exS _ ex_driftsAt (exIn.take 2)).2

end MV.KdqStream

namespace MV.KdqBatch

/-- reference {0,1} (critical value 0), then {0,0,1}: drift -/
def exE0 : List (Op ℚ) := [([[0], [1]], [[0, 1, 0, 1]]), ([[0], [0], [1]], [])]
/-- the next update rebuilds the tree from {0,0,1} (two leaves, bootstrap draw 0,0,1,0,0,1:
    critical value 0) and compares {1,1,1} with it: drift again -/
def exE1 : List (Op ℚ) := [([[1], [1], [1]], [[0, 0, 1, 0, 0, 1]])]

/-- a history with two drifts, cut at both: the hypothesis of `twin_epochs` -/
theorem ex_driftsAt : DriftsAt exB 1 bInit [exE0, exE1] :=
  driftsAt_of_prefixes _ _ _ _ (by decide) (by decide +kernel)

/-- the hypotheses of `twin` (`B` = {0,0,1}) and of `twin_history` hold after the first block -/
example : (run exB 1 bInit exE0).map (fun s => (s.drift, s.refData, s.total)) =
    some (.drift, some [[0], [0], [1]], 2) := by decide +kernel

/-- consequence of `twin_epochs`: the fresh detector with `set_reference({0,0,1})` fed {1,1,1}
    reports the second drift as well -/
example : ∃ t, twinRun exB 1 [[0], [0], [1]] ([[1], [1], [1]], [[0, 0, 1, 0, 0, 1]]) [] = some t ∧ t.drift = .drift :=
  (twin_epochs exB 1 bInit exE0 [exE1] ex_driftsAt []).1.1

end MV.KdqBatch
end examples

namespace MV.NNDVI

/- non-vacuity, at ℚ with a stand-in square root (the demo of `Props/C10.lean`): from reference
   {0,1} the batch {2,3} is reported as drift, so `twin` / `twin_history` apply to this state, and
   `setReference_twin` to any state, e.g. this one -/
section Demo
local instance : HasSqrt ℚ := ⟨fun x => x⟩
example :
    (run demoCfg demoState [([[2], [3]], demoAdj, [[0, 1, 2, 3], [0, 2, 1, 3]])]).drift = .drift ∧
    (run demoCfg demoState [([[2], [3]], demoAdj, [[0, 1, 2, 3], [0, 2, 1, 3]])]).reference = some [[2], [3]] ∧
    demoState.drift ≠ .warning := by
  decide +kernel
end Demo

end MV.NNDVI
