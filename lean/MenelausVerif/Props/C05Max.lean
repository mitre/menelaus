/-
  C05 (continued) — EDDM's maximum tracking, the analogue of `DDM.ddm_min`.

  At every *tested error position* (an error sample that is at least the `n_threshold`-th error of
  its epoch) `EDDM.update` computes `cur = dist_mean + 2 * dist_std`, replaces `_max_numerator` by
  `cur` when `_max_numerator < cur`, and decides on `cur / _max_numerator`; `reset()` (run by the
  update that follows a drift) puts `_max_numerator` back to `0`.  Over ordered fields (any `sqrt`),
  for every configuration and history: `_max_numerator` is the maximum of `0` and the numerators at
  the tested error positions of the current epoch, so the test statistic is `≤ 1` whenever
  `_max_numerator > 0`.
-/
import MenelausVerif.Props.C05

namespace MV
open MV.ErrTrace

namespace EDDM

/-- `j` is a tested error position of the epoch that starts at `st`: sample `j` lies in the
    epoch, is an error, and is at least the `n_threshold`-th error of the epoch -/
def TestedAt {K : Type} (c : Cfg K) (xs : List Bool) (st j : Nat) : Prop :=
  st ≤ j ∧ j < xs.length ∧ xs[j]? = some true ∧
    c.nThreshold ≤ ((xs.take (j + 1)).drop st).count true

theorem tested_snoc_lt {K : Type} (c : Cfg K) {xs : List Bool} {x : Bool} {st j : Nat} (h : j < xs.length) :
    TestedAt c (xs ++ [x]) st j ↔ TestedAt c xs st j := by
  unfold TestedAt
  rw [List.take_append_of_le_length h, List.getElem?_append_left h]
  simp only [List.length_append, List.length_singleton]
  constructor
  · rintro ⟨a, -, b, d⟩; exact ⟨a, h, b, d⟩
  · rintro ⟨a, -, b, d⟩; exact ⟨a, Nat.lt_succ_of_lt h, b, d⟩

theorem tested_snoc_last {K : Type} (c : Cfg K) (xs : List Bool) (x : Bool) (st : Nat) :
    TestedAt c (xs ++ [x]) st xs.length ↔
      st ≤ xs.length ∧ x = true ∧ c.nThreshold ≤ ((xs ++ [x]).drop st).count true := by
  unfold TestedAt
  rw [List.take_of_length_le (by simp)]
  simp

/-- one more update: the only new candidate is the latest position -/
theorem tested_snoc {K : Type} (c : Cfg K) (xs : List Bool) (x : Bool) (st j : Nat) :
    TestedAt c (xs ++ [x]) st j ↔ TestedAt c xs st j ∨ (j = xs.length ∧ TestedAt c (xs ++ [x]) st xs.length) := by
  constructor
  · intro hj
    rcases Nat.lt_succ_iff_lt_or_eq.1 (List.length_append (bs := [x]) ▸ hj.2.1 : j < xs.length + 1) with
      hlt | rfl
    · exact Or.inl ((tested_snoc_lt c hlt).1 hj)
    · exact Or.inr ⟨rfl, hj⟩
  · rintro (hj | ⟨rfl, hj⟩)
    · exact (tested_snoc_lt c hj.2.1).2 hj
    · exact hj

/-- `newMax` is `pyMax` -/
theorem newMax_spec {K : Type} [LinearOrder K] (m cur : K) :
    m ≤ newMax m cur ∧ cur ≤ newMax m cur ∧ (newMax m cur = cur ∨ newMax m cur = m) :=
  ⟨(pyMax_pick m cur).2.1, (pyMax_pick m cur).2.2, (pyMax_pick m cur).1.symm⟩

theorem pre_maxNum {K : Type} [Field K] (s : State K) :
    (pre s).maxNum = if s.drift = .drift then 0 else s.maxNum := by
  unfold pre; split <;> simp [reset, zero]

section maxIn
variable {K : Type} [Field K] [LinearOrder K]

/-- `m` is the greatest of `0` and the values `v` at the tested positions `T` -/
def MaxIn (T : Nat → Prop) (v : Nat → K) (m : K) : Prop :=
  0 ≤ m ∧ (∀ j, T j → v j ≤ m) ∧ ((∃ t, T t ∧ m = v t) ∨ m = 0)

theorem MaxIn.empty {T : Nat → Prop} (v : Nat → K) (h : ∀ j, ¬ T j) : MaxIn T v 0 :=
  ⟨le_refl _, fun j hj => absurd hj (h j), Or.inr rfl⟩

/-- `newMax` keeps it, when position `n` is appended, which is tested iff `q` -/
theorem MaxIn.snoc {T T' : Nat → Prop} {v v' : Nat → K} {m m' : K} {n : Nat} {q : Prop}
    (h : MaxIn T v m) (hT : ∀ j, T' j ↔ T j ∨ (j = n ∧ q)) (hv : ∀ j, T j → v' j = v j)
    (hq : q → m' = newMax m (v' n)) (hnq : ¬ q → m' = m) : MaxIn T' v' m' := by
  obtain ⟨h0, hb, ha⟩ := h
  have old : (∃ t, T' t ∧ m = v' t) ∨ m = 0 :=
    ha.imp_left fun ⟨t, ht, e⟩ => ⟨t, (hT t).2 (Or.inl ht), e.trans (hv t ht).symm⟩
  by_cases hq' : q
  · -- the new value competes with the stored maximum
    obtain ⟨m1, m2, m3⟩ := newMax_spec m (v' n)
    rw [hq hq']
    refine ⟨le_trans h0 m1, fun j hj => ?_, ?_⟩
    · rcases (hT j).1 hj with hj | ⟨rfl, -⟩
      · rw [hv j hj]; exact le_trans (hb j hj) m1
      · exact m2
    · rcases m3 with e | e
      · exact Or.inl ⟨n, (hT n).2 (Or.inr ⟨rfl, hq'⟩), e⟩
      · rw [e]; exact old
  · -- no new tested position, nothing stored
    rw [hnq hq']
    refine ⟨h0, fun j hj => ?_, old⟩
    have hj := ((hT j).1 hj).resolve_right fun g => hq' g.2
    rw [hv j hj]; exact hb j hj

end maxIn

section order
variable {K : Type} [Field K] [LinearOrder K] [HasSqrt K]

/-- `curr_numerator = dist_mean + 2 * dist_std` as computed by update `j` of the history -/
def numAt (c : Cfg K) (xs : List Bool) (j : Nat) : K :=
  numerator (run c (xs.take (j + 1))).distMean (run c (xs.take (j + 1))).distStd

/-- index of the first sample of the current epoch (`eddm_epoch`: right after the latest
    earlier drift) -/
def epochStart (c : Cfg K) (xs : List Bool) : Nat := xs.length - (run c xs).since

structure MaxSem (c : Cfg K) (xs : List Bool) : Prop where
  /-- no tested error position in the epoch yet: the value after `__init__` / `reset()` -/
  quiet : (∀ j, ¬ TestedAt c xs (epochStart c xs) j) → (run c xs).maxNum = 0
  nonneg : 0 ≤ (run c xs).maxNum
  /-- upper bound of the numerators at all tested error positions of the epoch -/
  bound : ∀ j, TestedAt c xs (epochStart c xs) j → numAt c xs j ≤ (run c xs).maxNum
  /-- attained at a tested error position of the epoch, or the initial `0` when all
      numerators of the epoch are `≤ 0` -/
  attained : (∃ t, TestedAt c xs (epochStart c xs) t ∧ (run c xs).maxNum = numAt c xs t) ∨
    ((run c xs).maxNum = 0 ∧ ∀ j, TestedAt c xs (epochStart c xs) j → numAt c xs j ≤ 0)

theorem since_step (c : Cfg K) (s : State K) (x : Bool) :
    (step c s x).since = (pre s).since + 1 := core_since c _ x

theorem maxNum_step (c : Cfg K) (s : State K) (x : Bool) :
    (step c s x).maxNum =
      if x = true ∧ c.nThreshold ≤ (pre s).nErrors + 1 then
        newMax (pre s).maxNum (numerator (step c s x).distMean (step c s x).distStd)
      else (pre s).maxNum := by
  cases x
  · rw [if_neg (fun h => Bool.false_ne_true h.1)]; rfl
  · by_cases h : c.nThreshold ≤ (pre s).nErrors + 1
    · rw [if_pos ⟨rfl, h⟩]; exact (core_error_tested c _ h).1
    · rw [if_neg (fun h' => h h'.2)]; exact (core_error_burnin c _ (Nat.lt_of_not_le h)).2.1

theorem numAt_snoc_lt (c : Cfg K) {xs : List Bool} {x : Bool} {j : Nat} (h : j < xs.length) :
    numAt c (xs ++ [x]) j = numAt c xs j := by
  unfold numAt
  rw [List.take_append_of_le_length h]

theorem numAt_snoc_eq (c : Cfg K) (xs : List Bool) (x : Bool) :
    numAt c (xs ++ [x]) xs.length =
      numerator (step c (run c xs) x).distMean (step c (run c xs) x).distStd := by
  unfold numAt
  rw [List.take_of_length_le (by simp), run_snoc]

theorem epochStart_snoc (c : Cfg K) (xs : List Bool) (x : Bool) :
    epochStart c (xs ++ [x]) = if (run c xs).drift = .drift then xs.length else epochStart c xs :=
  start_snoc (counters c) xs x

/-- the latest update is a tested error position iff it is an error and at least the
    `n_threshold`-th of the epoch — the guard of the code -/
theorem tested_last_iff (c : Cfg K) (xs : List Bool) (x : Bool) :
    TestedAt c (xs ++ [x]) (epochStart c (xs ++ [x])) xs.length ↔
      (x = true ∧ c.nThreshold ≤ (pre (run c xs)).nErrors + 1) := by
  have hle : epochStart c (xs ++ [x]) ≤ xs.length := by
    rw [epochStart_snoc]; split
    · exact le_refl _
    · exact Nat.sub_le _ _
  have hc : (run c (xs ++ [x])).nErrors = ((xs ++ [x]).drop (epochStart c (xs ++ [x]))).count true :=
    (eddm_errors c (xs ++ [x])).count
  rw [run_snoc, step_eq, core_nErrors] at hc
  rw [tested_snoc_last, ← hc]
  constructor
  · rintro ⟨-, rfl, h⟩; exact ⟨rfl, h⟩
  · rintro ⟨rfl, h⟩; exact ⟨hle, rfl, h⟩

theorem MaxIn.maxSem {c : Cfg K} {xs : List Bool}
    (h : MaxIn (TestedAt c xs (epochStart c xs)) (numAt c xs) (run c xs).maxNum) : MaxSem c xs := by
  obtain ⟨h0, hb, ha⟩ := h
  refine ⟨fun hno => ha.resolve_left fun ⟨t, ht, _⟩ => hno t ht, h0, hb, ?_⟩
  rcases ha with h | h
  · exact Or.inl h
  · exact Or.inr ⟨h, fun j hj => h ▸ hb j hj⟩

/-- **EDDM's maximum tracking (ordered fields).**  After any history: while the current
    epoch has no tested error position the stored `_max_numerator` is `0`; otherwise it is
    an upper bound of `mean_j + 2 * std_j` over all tested error positions `j` of the
    epoch and equals that numerator at one of them, or is the initial `0` when all of them
    are `≤ 0`.  (Only the linear order is used: no law of `+`, `*`, `/`, `sqrt`.) -/
theorem eddm_max (c : Cfg K) (xs : List Bool) : MaxSem c xs := by
  refine MaxIn.maxSem ?_
  induction xs using snoc_induction with
  | nil =>
    have h0 : (run c ([] : List Bool)).maxNum = 0 := by simp [run, init, zero]
    rw [h0]
    exact MaxIn.empty _ fun j hj => absurd hj.2.1 (Nat.not_lt_zero j)
  | snoc xs x ih =>
    -- the value the update starts from is the maximum over the earlier positions of the new epoch
    have hpre : MaxIn (TestedAt c xs (epochStart c (xs ++ [x]))) (numAt c xs) (pre (run c xs)).maxNum := by
      rw [epochStart_snoc, pre_maxNum]
      split
      · exact MaxIn.empty _ fun j hj => absurd hj.2.1 (Nat.not_lt.2 hj.1)
      · exact ih
    have hmax := maxNum_step c (run c xs) x
    rw [run_snoc]
    refine hpre.snoc (tested_snoc c xs x _) (fun j hj => numAt_snoc_lt c hj.2.1) (fun h => ?_) fun h => ?_
    · rw [hmax, if_pos ((tested_last_iff c xs x).1 h), numAt_snoc_eq]
    · rw [hmax, if_neg fun g => h ((tested_last_iff c xs x).2 g)]

/-- the same as one formula: `_max_numerator` is the greatest element of
    `{0} ∪ {mean_j + 2 * std_j | j a tested error position of the current epoch}` -/
theorem eddm_max_isGreatest (c : Cfg K) (xs : List Bool) :
    IsGreatest (insert 0 {v | ∃ j, TestedAt c xs (epochStart c xs) j ∧ v = numAt c xs j})
      (run c xs).maxNum := by
  have M := eddm_max c xs
  constructor
  · rcases M.attained with ⟨t, hT, ht⟩ | ⟨h0, -⟩
    · exact Or.inr ⟨t, hT, ht⟩
    · exact Or.inl h0
  · rintro v (hv | ⟨j, hj, hv⟩)
    · rw [hv]; exact M.nonneg
    · rw [hv]; exact M.bound j hj

end order
section orderedField
variable {K : Type} [Field K] [LinearOrder K] [IsStrictOrderedRing K] [HasSqrt K]

/-- **The test statistic of one update is at most 1.**  At a tested error (`n_threshold`-th
    error of the epoch or later), `cur / _max_numerator ≤ 1` whenever the updated
    `_max_numerator` is positive. -/
theorem eddm_ratio_le_one (c : Cfg K) (s : State K) (h : c.nThreshold ≤ (pre s).nErrors + 1) :
    let s' := step c s true
    let cur := numerator s'.distMean s'.distStd
    s'.maxNum = newMax (pre s).maxNum cur ∧ (0 < s'.maxNum → cur / s'.maxNum ≤ 1) := by
  intro s' cur
  have hm : s'.maxNum = newMax (pre s).maxNum cur := (core_error_tested c _ h).1
  refine ⟨hm, fun hpos => ?_⟩
  rw [div_le_one hpos, hm]
  exact (newMax_spec _ _).2.1

/-- on whole histories: the numerator of every tested error position of the current epoch,
    divided by the stored maximum, is at most 1 (whenever the maximum is positive; it is
    never negative, `MaxSem.nonneg`) -/
theorem eddm_stat_le_one (c : Cfg K) (xs : List Bool) (j : Nat)
    (hj : TestedAt c xs (epochStart c xs) j) (hpos : 0 < (run c xs).maxNum) :
    numAt c xs j / (run c xs).maxNum ≤ 1 := by
  rw [div_le_one hpos]
  exact (eddm_max c xs).bound j hj

end orderedField
end EDDM

end MV
