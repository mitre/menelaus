/-
  C16, continued — the two detectors `Props/C16.lean` left to an abstract step function, for their
  Lean models.  ADWINAccuracy (`AdwinAcc.step`, Python `int(y_true == y_pred)`,
  `adwin_accuracy.py:89`) *is* `C16.labelStep` of a step function of the error bit, so only
  agreement matters.  LinearFourRates (`LFR.step`, fed the two 0/1 labels and the Monte-Carlo draws
  its simulations consume) is a step function of the confusion cell and the draws, so only the cell
  matters — and agreement alone is not enough (`lfr_agreement_not_enough`): the property text says
  "cell" for a reason.  Every carrier, hence also the executed `Float` instances.
-/
import MenelausVerif.Props.C16
import MenelausVerif.Model.Adwin
import MenelausVerif.Model.LFR
namespace MV.C16
open MV

theorem trace_length {σ ι : Type} (step : σ → ι → σ) (s : σ) (xs : List ι) :
    (trace step s xs).length = xs.length := by
  induction xs generalizing s with
  | nil => rfl
  | cons x xs ih => simp [trace, ih]

theorem agree_eq_beq {L : Type} [DecidableEq L] [BEq L] [LawfulBEq L] (p : L × L) :
    agree p = (p.1 == p.2) :=
  (Bool.beq_eq_decide_eq ..).symm

theorem indicator_eq {α L : Type} [NatCast α] [DecidableEq L] (p : L × L) :
    (AdwinAcc.indicator p.1 p.2 : α) = if agree p then ((1 : Nat) : α) else ((0 : Nat) : α) := by
  unfold AdwinAcc.indicator agree
  by_cases h : p.1 = p.2 <;> simp [h]

section AdwinAcc
variable {α : Type} [Add α] [Sub α] [Mul α] [Div α] [Neg α] [LT α] [DecidableLT α]
  [NatCast α] [HasSqrt α] [HasLogExp α]

/-- ADWIN fed the accuracy indicator of an *error bit*: `1` for a correct prediction, `0` for an error -/
def adwinErrStep (c : Adwin.Cfg α) (s : Adwin.State α) (err : Bool) : Adwin.State α :=
  Adwin.step c s (if err then ((0 : Nat) : α) else ((1 : Nat) : α))

/-- **the ADWINAccuracy model has the shape C16 is about**: its update is a step function of the
    error bit, applied to the pair's disagreement -/
theorem adwinAcc_step_eq {L : Type} [DecidableEq L] (c : Adwin.Cfg α) :
    (AdwinAcc.step c : Adwin.State α → L × L → Adwin.State α) = labelStep (adwinErrStep c) := by
  funext s p
  unfold AdwinAcc.step labelStep adwinErrStep
  rw [indicator_eq]
  cases agree p <;> rfl

/-- **ADWINAccuracy: only agreement matters.**  For every configuration and every starting state, two
    histories of `(y_true, y_pred)` pairs — over any two label types: ints, strings, booleans, floats,
    three and more classes — with the same agreement bits give the same trace of *complete* detector
    states (window buckets, totals, variance, width, `drift_state`, `retraining_recs`, counters after
    every update). -/
theorem adwinAcc_agreement {L L' : Type} [DecidableEq L] [DecidableEq L'] (c : Adwin.Cfg α)
    (s : Adwin.State α) (ps : List (L × L)) (qs : List (L' × L')) (h : ps.map agree = qs.map agree) :
    trace (AdwinAcc.step c) s ps = trace (AdwinAcc.step c) s qs := by
  rw [adwinAcc_step_eq, adwinAcc_step_eq]
  exact trace_depends_on_agreement _ s ps qs h

theorem adwinAcc_relabel {L L' : Type} [DecidableEq L] [DecidableEq L'] (c : Adwin.Cfg α)
    (s : Adwin.State α) (f : L → L') (hf : ∀ a b, f a = f b → a = b) (ps : List (L × L)) :
    trace (AdwinAcc.step c) s (ps.map (fun p => (f p.1, f p.2))) = trace (AdwinAcc.step c) s ps := by
  rw [adwinAcc_step_eq, adwinAcc_step_eq]
  exact injective_relabel _ s f hf ps

/-- the same with the agreement bits computed by `==` (Python's `y_true == y_pred`), for label types
    whose `==` is lawful -/
theorem adwinAcc_agreement_beq {L L' : Type} [DecidableEq L] [DecidableEq L'] [BEq L] [LawfulBEq L]
    [BEq L'] [LawfulBEq L'] (c : Adwin.Cfg α) (s : Adwin.State α) (ps : List (L × L)) (qs : List (L' × L'))
    (h : ps.map (fun p => p.1 == p.2) = qs.map (fun p => p.1 == p.2)) :
    trace (AdwinAcc.step c) s ps = trace (AdwinAcc.step c) s qs := by
  apply adwinAcc_agreement
  rwa [funext (agree_eq_beq (L := L)), funext (agree_eq_beq (L := L'))]

/-- the last state of the labelled trace is the model's `AdwinAcc.run` (the object of C03) -/
theorem adwinAcc_trace_last {L : Type} [DecidableEq L] (c : Adwin.Cfg α) (ps : List (L × L)) (h : ps ≠ []) :
    (trace (AdwinAcc.step c) Adwin.init ps).getLast? = some (AdwinAcc.run c ps) :=
  trace_getLast _ _ ps h

/-- `AdwinAcc.run` is ADWIN run on the agreement indicators, a function of the agreement bits alone -/
theorem adwinAcc_trace_last_adwin {L : Type} [DecidableEq L] (c : Adwin.Cfg α) (ps : List (L × L)) (h : ps ≠ []) :
    (trace (AdwinAcc.step c) Adwin.init ps).getLast? =
      some (Adwin.run c ((ps.map agree).map (fun b => if b then ((1 : Nat) : α) else ((0 : Nat) : α)))) := by
  rw [trace_getLast _ _ ps h, Adwin.run, List.map_map, List.foldl_map]
  congr 2
  funext s p
  exact congrArg (Adwin.step c s) (indicator_eq p)

end AdwinAcc

/-- a detector that is handed 0/1 labels in some encoding together with a further input `ξ` (LFR: the
    Monte-Carlo draws of this update) and passes the confusion-matrix cell `(y_pred, y_true)` and that
    input to its step -/
def cellStepWith {σ L ξ : Type} (bit : L → Bool) (step : σ → (Bool × Bool) × ξ → σ) (s : σ)
    (x : (L × L) × ξ) : σ :=
  step s ((bit x.1.2, bit x.1.1), x.2)

theorem cell_only_with {σ L L' ξ : Type} (bit : L → Bool) (bit' : L' → Bool)
    (step : σ → (Bool × Bool) × ξ → σ) (s : σ) (ps : List ((L × L) × ξ)) (qs : List ((L' × L') × ξ))
    (h : ps.map (fun x => ((bit x.1.2, bit x.1.1), x.2)) = qs.map (fun x => ((bit' x.1.2, bit' x.1.1), x.2))) :
    trace (cellStepWith bit step) s ps = trace (cellStepWith bit' step) s qs :=
  trace_congr_map step _ _ s ps qs h

section LFR
variable {α : Type} [Add α] [Sub α] [Mul α] [Div α] [LT α] [DecidableLT α] [LE α] [DecidableLE α]
  [NatCast α] [BEq α] [LFR.HasRound α]

/-- the LFR model as a step function of the cell `(y_pred, y_true)` and the draws -/
def lfrCellStep (c : LFR.Cfg α) (s : LFR.State α) (x : (Bool × Bool) × List LFR.Block) : LFR.State α :=
  LFR.step c s x.1.2 x.1.1 x.2

/-- `LinearFourRates.update(y_true, y_pred)` on labels in an encoding `bit` (which of the two values is
    class 1), with the draws of this update -/
def lfrLabelStep {L : Type} (bit : L → Bool) (c : LFR.Cfg α) (s : LFR.State α)
    (x : (L × L) × List LFR.Block) : LFR.State α :=
  LFR.step c s (bit x.1.1) (bit x.1.2) x.2

/-- **the LFR model has the shape C16 is about**: its update is a step function of the confusion cell
    (and of the draws) -/
theorem lfrLabelStep_eq {L : Type} (bit : L → Bool) (c : LFR.Cfg α) :
    lfrLabelStep bit c = cellStepWith bit (lfrCellStep c) := rfl

/-- **LinearFourRates: only the cell matters.**  For every configuration and every starting state,
    two histories in any two encodings of the 0/1 labels whose pairs decode to the same confusion
    cells `(y_pred, y_true)`, with the same Monte-Carlo draws, give the same trace of complete
    detector states (confusion matrix, the four `P` and `R` statistics, bounds cache, `drift_state`,
    `retraining_recs`, counters, `all_drift_states` after every update). -/
theorem lfr_cell_only {L L' : Type} (bit : L → Bool) (bit' : L' → Bool) (c : LFR.Cfg α) (s : LFR.State α)
    (ps : List ((L × L) × List LFR.Block)) (qs : List ((L' × L') × List LFR.Block))
    (h : ps.map (fun x => ((bit x.1.2, bit x.1.1), x.2)) = qs.map (fun x => ((bit' x.1.2, bit' x.1.1), x.2))) :
    trace (lfrLabelStep bit c) s ps = trace (lfrLabelStep bit' c) s qs := by
  rw [lfrLabelStep_eq, lfrLabelStep_eq]
  exact cell_only_with bit bit' (lfrCellStep c) s ps qs h

/-- the LFR model paired with the queue of draws of the updates to come: a step function of the cell
    alone, i.e. literally the shape of `C16.cellStep` (an exhausted queue supplies no draws) -/
def lfrQueueStep (c : LFR.Cfg α) (sd : LFR.State α × List (List LFR.Block)) (cell : Bool × Bool) :
    LFR.State α × List (List LFR.Block) :=
  (LFR.step c sd.1 cell.2 cell.1 (sd.2.headD []), sd.2.tail)

/-- **instance of `C16.cell_only`**: label pairs and draws given as two lists — the same draws `ds`
    on both sides, label histories that decode to the same cells — give the same trace of (state,
    remaining draws) -/
theorem lfr_cell_only_same_draws {L L' : Type} (bit : L → Bool) (bit' : L' → Bool) (c : LFR.Cfg α)
    (s : LFR.State α) (ds : List (List LFR.Block)) (ps : List (L × L)) (qs : List (L' × L'))
    (h : ps.map (fun p => (bit p.2, bit p.1)) = qs.map (fun p => (bit' p.2, bit' p.1))) :
    trace (cellStep bit (lfrQueueStep c)) (s, ds) ps = trace (cellStep bit' (lfrQueueStep c)) (s, ds) qs :=
  cell_only bit bit' (lfrQueueStep c) (s, ds) ps qs h

theorem lfrQueue_trace {L : Type} (bit : L → Bool) (c : LFR.Cfg α) (s : LFR.State α)
    (ps : List ((L × L) × List LFR.Block)) :
    (trace (cellStep bit (lfrQueueStep c)) (s, ps.map Prod.snd) (ps.map Prod.fst)).map Prod.fst =
      trace (lfrLabelStep bit c) s ps := by
  induction ps generalizing s with
  | nil => rfl
  | cons x xs ih =>
    simp only [List.map_cons, trace, cellStep, lfrQueueStep, List.headD_cons, List.tail_cons]
    rw [ih]
    rfl

/-- the last state of the labelled trace is the model's `LFR.run` on the decoded operations (the
    object of C06) -/
theorem lfr_trace_last {L : Type} (bit : L → Bool) (c : LFR.Cfg α) (ps : List ((L × L) × List LFR.Block))
    (h : ps ≠ []) :
    (trace (lfrLabelStep bit c) LFR.init ps).getLast? =
      some (LFR.run c (ps.map (fun x => ⟨bit x.1.1, bit x.1.2, x.2⟩))) := by
  rw [trace_getLast _ _ ps h]
  unfold LFR.run
  rw [List.foldl_map]
  rfl

end LFR

section Examples

/-- hypotheses of `adwinAcc_agreement`: strings vs. three integer classes, same agreement pattern,
    different label types and different disagreeing values -/
example : ([("cat", "cat"), ("cat", "dog"), ("dog", "dog"), ("dog", "cat")].map agree)
    = ([((2 : Nat), 2), (0, 1), (1, 1), (2, 0)].map agree) := by decide

/-- hypotheses of `lfr_cell_only`: booleans vs. the strings "1"/"0" (decoded by `· == "1"`), same
    cells and same draws -/
example :
    ([((true, true), [[[true, false]]]), ((false, true), ([] : List LFR.Block)), ((false, false), [])].map
        (fun x => (((id : Bool → Bool) x.1.2, (id : Bool → Bool) x.1.1), x.2)))
    = ([((("1", "1") : String × String), [[[true, false]]]), (("0", "1"), ([] : List LFR.Block)), (("0", "0"), [])].map
        (fun x => ((x.1.2 == "1", x.1.1 == "1"), x.2))) := by decide

/-- **for LFR agreement alone is not enough**: a correctly predicted negative and a correctly
    predicted positive have the same agreement bit but count in different cells, and the states differ
    (here: the confusion matrix after one update, at the toy carrier `Int`). -/
theorem lfr_agreement_not_enough :
    let _ : LFR.HasRound Int := ⟨Int.toNat, id⟩
    let c : LFR.Cfg Int := { eta := 1, warnLevel := 0, detectLevel := 0, burnIn := 5, numMc := 1, subsample := 1,
                             tracked := LFR.allRates, roundVal := 0 }
    agree ((0 : Nat), (0 : Nat)) = agree ((1 : Nat), (1 : Nat)) ∧
    ((trace (lfrLabelStep (· == 1) c) LFR.init [((0, 0), [])]).map (·.conf)) ≠
      ((trace (lfrLabelStep (· == 1) c) LFR.init [(((1 : Nat), (1 : Nat)), [])]).map (·.conf)) := by
  decide

end Examples
end MV.C16
