/-
  C11 — PCA-CD scores each component on aligned supports and alarms via Page-Hinkley.
  Model: Model/PCACD.lean (PCA, KDE and JS values are oracle inputs); one update, histories and the
  reachable-state invariant `Inv`: Lemmas/PCACDStep.lean.

  On every carrier, no arithmetic law (hence also the executed `Float` instance): counters, silence
  until the windows are full, the score schedule, drift ⇔ Page-Hinkley alarm, the reference window
  after a drift, `online_scaling`, which oracle fields an update reads, same supports for both
  histograms, the score never `< 0`.  Over ordered fields: the intersection divergence and the
  histograms as relative counts; that every stored score lies in its component's support.
-/
import MenelausVerif.Lemmas.PCACDStep
import MenelausVerif.Lemmas.SeqSteps
import MenelausVerif.Lemmas.Carrier
import Mathlib.Data.List.Induction
import Mathlib.Algebra.Order.BigOperators.Group.List
namespace MV.PCACD
open MV

section Structural
set_option linter.unusedSectionVars false
variable {X α : Type} [Add α] [Sub α] [Mul α] [Div α] [LT α] [DecidableLT α] [LE α] [DecidableLE α]
  [NatCast α] [IntCast α] [HasTrunc α]

/-- `total_samples` counts every update -/
theorem step_total (c : Cfg α) (s : State X α) (x : X) (o : Oracle α) :
    (step c s x o).total = s.total + 1 :=
  (step_fields c s x o).1

/-- `samples_since_reset`: restarts at 0 on the update that follows a drift (that sample is
    discarded and not counted), otherwise counts the update -/
theorem step_since (c : Cfg α) (s : State X α) (x : X) (o : Oracle α) :
    (step c s x o).since = if s.building = true ∧ s.drift ≠ .none then 0 else s.since + 1 :=
  (step_fields c s x o).2.1

/-- the score history is extended by exactly one value — the maximum over the
    components — on an update of the sliding phase with `(total_samples - 1) % step = 0`
    (`total_samples - 1 ≠ 0`), and is untouched by every other update. -/
theorem schedule (c : Cfg α) (s : State X α) (x : X) (o : Oracle α) :
    (step c s x o).scores =
      if s.building = false ∧ s.total % c.step = 0 ∧ s.total ≠ 0
      then s.scores ++ [score c s (slideProj c s o) o] else s.scores :=
  (step_fields c s x o).2.2.1

/-- the embedded monitor sees exactly the scores: it is updated with the new score on a
    scheduled sliding update, reset on the update after a drift, and untouched otherwise -/
theorem monitor_fed (c : Cfg α) (s : State X α) (x : X) (o : Oracle α) :
    (step c s x o).ph =
      if s.building = false then
        (if s.total % c.step = 0 ∧ s.total ≠ 0
         then (PH.step c.ph s.ph (score c s (slideProj c s o) o)).1 else s.ph)
      else if s.drift ≠ .none then PH.reset s.ph else s.ph :=
  (step_fields c s x o).2.2.2

/-- in a reachable state an update reports drift exactly when it
    is a scheduled update of the sliding phase and the embedded Page-Hinkley monitor, fed with
    the change score, alarms. -/
theorem drift_iff_ph_alarm (c : Cfg α) (s : State X α) (x : X) (o : Oracle α) (h : Inv c s) :
    (step c s x o).drift = .drift ↔
      (s.building = false ∧ (s.total % c.step = 0 ∧ s.total ≠ 0) ∧
        (PH.step c.ph s.ph (score c s (slideProj c s o) o)).1.drift = .drift) := by
  cases hb : s.building
  · have hd := (h.sliding hb).1
    rw [step_sliding c s x o hb, slide_eq]
    -- the monitor, quiet before, is quiet or alarms: it never warns
    rcases PH.step_drift c.ph s.ph (score c s (slideProj c s o) o) with e | ⟨e, _⟩
    · simp [e, h.phNone hd, hd, scheduled_iff]
    · simp [e, hd, scheduled_iff]
  · rw [step_building c s x o hb]
    split <;> simp [fill_eq]

/-- with `burn_in = 0` (what `PCACD.__init__` passes) the monitor alarms iff the test recorded in
    its row (`Row.check`; for the direction "positive" that `PCACD` uses, `threshold * mean <
    sum - min` on the updated statistics) holds: `PH.step_decision` without a burn-in.  `hph` is not
    used: this holds from any state of the monitor. -/
theorem ph_alarm_iff_check (pc : PH.Cfg α) (hb : pc.burnIn = 0) (ph : PH.State α)
    (hph : ph.drift = .none) (v : α) :
    (PH.step pc ph v).1.drift = .drift ↔ (PH.step pc ph v).2.check = true := by
  rw [PH.step_decision, PH.step_since, hb]
  exact and_iff_right (by split <;> omega)

/-- the drift state of the detector is only ever `None` or `"drift"`; a drift is followed by
    the fill phase -/
theorem drift_then_building (c : Cfg α) (hw : 0 < c.w) (inputs : List (X × Oracle α))
    (hd : (run c inputs : State X α).drift ≠ .none) :
    (run c inputs : State X α).drift = .drift ∧ (run c inputs : State X α).building = true := by
  have h := inv_run (X := X) c hw inputs
  refine ⟨?_, (h.drifted hd).1⟩
  cases hs : (run c inputs : State X α).drift <;> simp_all [h.notWarning]

/-- the update that follows a drift discards its sample:
    the former test window becomes the reference window, the test window is emptied,
    `samples_since_reset` restarts at 0, the drift state is cleared, the monitor is reset;
    `total_samples` still counts the update and no score is computed. -/
theorem reference_is_former_test (c : Cfg α) (hw : 0 < c.w) (s : State X α) (x : X) (o : Oracle α)
    (h : Inv c s) (hd : s.drift = .drift) :
    let s' := step c s x o
    s'.ref = s.test ∧ s'.test = [] ∧ s'.since = 0 ∧ s'.drift = .none ∧ s'.ph = PH.reset s.ph ∧
    s'.total = s.total + 1 ∧ s'.scores = s.scores ∧ s'.building = true ∧ s'.numPcs = s.numPcs := by
  have hd' : s.drift ≠ .none := by simp [hd]
  have hb := (h.drifted hd').1
  rw [step_drifted c hw s x o hb hd']
  simp [hb]

theorem ref_frozen_while_sliding (c : Cfg α) (s : State X α) (x : X) (o : Oracle α)
    (hb : s.building = false) : (step c s x o).ref = s.ref := by
  rw [step_sliding c s x o hb, slide_eq]

theorem test_slides (c : Cfg α) (s : State X α) (x : X) (o : Oracle α)
    (hb : s.building = false) : (step c s x o).test = s.test.drop 1 ++ [x] := by
  rw [step_sliding c s x o hb, slide_eq]

/-- `online_scaling` is not read by the state machine: with the same oracle inputs the detector
    behaves identically whether the flag is on or off (the flag only changes how the harness /
    the real code compute the projections that are fed in) -/
theorem scaling_flag_only_changes_inputs (c : Cfg α) (b : Bool) (inputs : List (X × Oracle α)) :
    run { c with scaling := b } inputs = run c inputs := by
  rfl

theorem take_snoc {β : Type} (xs : List β) (x : β) (n : Nat) :
    (xs ++ [x]).take n = if xs.length < n then xs.take n ++ [x] else xs.take n := by
  rw [List.take_append]
  split
  · rw [List.take_of_length_le (l := [x]) (by simp; omega)]
  · rw [show n - xs.length = 0 by omega]; simp

theorem drop_snoc {β : Type} (xs : List β) (x : β) (n : Nat) :
    (xs ++ [x]).drop n = if xs.length < n then xs.drop n else xs.drop n ++ [x] := by
  rw [List.drop_append]
  split
  · rw [List.drop_eq_nil_of_le (as := [x]) (by simp; omega), List.append_nil]
  · rw [show n - xs.length = 0 by omega]; simp

/-- explicit description of the state while the first `2 * window_size` samples arrive -/
structure Start (c : Cfg α) (xs : List X) (s : State X α) : Prop where
  total : s.total = xs.length
  since : s.since = xs.length
  drift : s.drift = .none
  scores : s.scores = [zero]
  ph : s.ph = PH.init
  ref : s.ref = xs.take c.w
  test : s.test = xs.drop c.w
  building : s.building = decide (xs.length < 2 * c.w)
  numPcs : xs.length < 2 * c.w → s.numPcs = none

theorem start_step (c : Cfg α) (xs : List X) (s : State X α) (x : X) (o : Oracle α)
    (h : Start c xs s) (hn : xs.length < 2 * c.w) : Start c (xs ++ [x]) (step c s x o) := by
  -- where the sample goes, in terms of the number of samples seen (said first: `omega` is slow
  -- once the fields are in the context)
  have hk : (xs.length < c.w ∨ xs.length - c.w + 1 < c.w) ↔ xs.length + 1 < 2 * c.w := by omega
  have ht : xs.length - c.w < c.w := by omega
  have hm : min c.w xs.length < c.w ↔ xs.length < c.w := by omega
  obtain ⟨h1, h2, h3, h4, h5, h6, h7, h8, h9⟩ := h
  have hc : s.ref.length < c.w ↔ xs.length < c.w := by rw [h6, List.length_take]; exact hm
  have hl : s.test.length = xs.length - c.w := by rw [h7, List.length_drop]
  obtain ⟨g1, g2, g3, g4, g5, g6, g7, g8, g9⟩ :=
    step_fill c s x o (h8.trans (decide_eq_true hn)) h3 (hl ▸ ht)
  have hk' : (s.ref.length < c.w ∨ s.test.length + 1 < c.w) ↔ (xs ++ [x]).length < 2 * c.w := by
    rw [hc, hl, List.length_append, List.length_singleton]; exact hk
  exact ⟨by rw [g1, h1, List.length_append, List.length_singleton],
    by rw [g2, h2, List.length_append, List.length_singleton], g3, g4 ▸ h4, g5 ▸ h5,
    by rw [g6, if_congr hc rfl rfl, h6, take_snoc], by rw [g7, if_congr hc rfl rfl, h7, drop_snoc],
    by rw [g8, decide_eq_decide.mpr hk'], fun hh => (g9 (hk'.mpr hh)).trans (h9 hn)⟩

/-- silent until full, at the start: while at most `2 * window_size` samples have been seen no drift
    is reported and no score has been computed; the first `window_size` samples are the
    reference window, the following ones the test window; `num_pcs` is still `None` before
    the `2 * window_size`-th sample and the sliding phase starts exactly with that sample. -/
theorem silent_until_full (c : Cfg α) (hw : 0 < c.w) (inputs : List (X × Oracle α))
    (hn : inputs.length ≤ 2 * c.w) : Start c (inputs.map Prod.fst) (run c inputs : State X α) := by
  induction inputs using List.reverseRecOn with
  | nil =>
    exact ⟨rfl, rfl, rfl, rfl, rfl, List.take_nil.symm, List.drop_nil.symm,
      (decide_eq_true (Nat.mul_pos Nat.two_pos hw)).symm, fun _ => rfl⟩
  | append_singleton l xo ih =>
    rw [List.length_append] at hn
    rw [run_snoc, List.map_append]
    exact start_step c _ _ xo.1 xo.2 (ih (Nat.le_of_lt hn)) (by rw [List.length_map]; exact hn)

/-- explicit description of the state during the `1 + window_size` updates that follow a
    drift reported in state `s0` (`ys` = the samples fed since, first one discarded) -/
structure After (c : Cfg α) (s0 : State X α) (ys : List X) (s : State X α) : Prop where
  total : s.total = s0.total + ys.length
  since : s.since + 1 = ys.length
  drift : s.drift = .none
  scores : s.scores = s0.scores
  ph : s.ph = PH.reset s0.ph
  ref : s.ref = s0.test
  test : s.test = ys.tail
  building : s.building = decide (ys.length < c.w + 1)

theorem after_step (c : Cfg α) (s0 : State X α) (h0 : s0.test.length = c.w)
    (ys : List X) (s : State X α) (x : X) (o : Oracle α)
    (h : After c s0 ys s) (hne : ys ≠ []) (hn : ys.length < c.w + 1) :
    After c s0 (ys ++ [x]) (step c s x o) := by
  have hpos : 0 < ys.length := List.length_pos_iff.mpr hne
  have ht : ys.length - 1 < c.w := by omega
  obtain ⟨h1, h2, h3, h4, h5, h6, h7, h8⟩ := h
  have hl : s.test.length = ys.length - 1 := by rw [h7, List.length_tail]
  -- the reference window, the former test window, is full: every sample goes to the test window
  have hr : ¬ s.ref.length < c.w := by rw [h6, h0]; exact Nat.lt_irrefl _
  obtain ⟨g1, g2, g3, g4, g5, g6, g7, g8, -⟩ :=
    step_fill c s x o (h8.trans (decide_eq_true hn)) h3 (hl ▸ ht)
  rw [if_neg hr] at g6 g7
  exact ⟨by rw [g1, h1, List.length_append, List.length_singleton, Nat.add_assoc],
    by rw [g2, h2, List.length_append, List.length_singleton], g3, g4 ▸ h4, g5 ▸ h5, g6 ▸ h6,
    by rw [g7, h7, List.tail_append_of_ne_nil hne],
    by rw [g8, decide_eq_decide, or_iff_right hr, hl, Nat.sub_add_cancel hpos, List.length_append,
      List.length_singleton, Nat.succ_lt_succ_iff]⟩

/-- silent until full, after a drift: if state `s0` reports drift, then during the next
    `1 + window_size` updates no drift is reported, no score is computed, the reference window
    is the former test window, the monitor stays reset, `samples_since_reset` is the number of
    these updates minus one (the first sample is discarded), the test window holds the other
    samples, and the sliding phase resumes exactly after `1 + window_size` updates. -/
theorem silent_after_drift (c : Cfg α) (hw : 0 < c.w) (s0 : State X α) (h : Inv c s0)
    (hd : s0.drift = .drift) (post : List (X × Oracle α)) (hne : post ≠ [])
    (hn : post.length ≤ c.w + 1) : After c s0 (post.map Prod.fst) (runFrom c s0 post) := by
  have hd' : s0.drift ≠ .none := by simp [hd]
  obtain ⟨hb, h0, _⟩ := h.drifted hd'
  induction post using List.reverseRecOn with
  | nil => exact absurd rfl hne
  | append_singleton l xo ih =>
    by_cases hl : l = []
    · -- the first update discards its sample
      subst hl
      show After c s0 [xo.1] (step c s0 xo.1 xo.2)
      rw [step_drifted c hw s0 xo.1 xo.2 hb hd']
      exact ⟨rfl, rfl, rfl, rfl, rfl, rfl, rfl, hb.trans (decide_eq_true (Nat.succ_lt_succ hw)).symm⟩
    · rw [List.length_append] at hn
      rw [runFrom_snoc, List.map_append]
      exact after_step c s0 h0 _ _ xo.1 xo.2 (ih hl (Nat.le_of_lt hn)) (by rwa [Ne, List.map_eq_nil_iff])
        (by rw [List.length_map]; exact hn)

/-- the same, for histories from the initial state -/
theorem silent_after_drift_run (c : Cfg α) (hw : 0 < c.w) (pre post : List (X × Oracle α))
    (hd : (run c pre : State X α).drift = .drift) (hne : post ≠ []) (hn : post.length ≤ c.w + 1) :
    After c (run c pre) (post.map Prod.fst) (run c (pre ++ post)) := by
  rw [run_append]
  exact silent_after_drift c hw _ (inv_run c hw pre) hd post hne hn

theorem step_test_suffix (c : Cfg α) (hw : 0 < c.w) (s : State X α) (x : X) (o : Oracle α)
    (h : Inv c s) : (step c s x o).test <:+ s.test ++ [x] := by
  cases hb : s.building
  · rw [test_slides c s x o hb]
    exact List.suffix_append_self_iff.mpr (List.drop_suffix 1 s.test)
  · by_cases hd : s.drift = .none
    · obtain ⟨ht, -, he⟩ := h.filling hb hd
      obtain ⟨-, -, -, -, -, -, g7, -⟩ := step_fill c s x o hb hd ht
      rw [g7]
      split
      · -- the sample went to the reference window: the test window is still empty
        rw [he ‹_›]; exact List.nil_suffix
      · exact List.suffix_rfl
    · rw [step_drifted c hw s x o hb hd]; exact List.nil_suffix

/-- the test window always consists of the most recent samples -/
theorem test_suffix (c : Cfg α) (hw : 0 < c.w) (inputs : List (X × Oracle α)) :
    (run c inputs : State X α).test <:+ inputs.map Prod.fst := by
  induction inputs using List.reverseRecOn with
  | nil => exact List.nil_suffix
  | append_singleton l xo ih =>
    rw [run_snoc, List.map_append]
    exact (step_test_suffix c hw _ xo.1 xo.2 (inv_run c hw l)).trans (List.suffix_append_self_iff.mpr ih)

/-- at a drift (and throughout the sliding phase) the test window is exactly the last
    `window_size` samples of the stream -/
theorem test_is_last_window (c : Cfg α) (hw : 0 < c.w) (inputs : List (X × Oracle α))
    (h : (run c inputs : State X α).building = false ∨ (run c inputs : State X α).drift = .drift) :
    (run c inputs : State X α).test = (inputs.map Prod.fst).drop (inputs.length - c.w) := by
  have hi := inv_run (X := X) c hw inputs
  have hl : (run c inputs : State X α).test.length = c.w := by
    rcases h with h | h
    · exact (hi.sliding h).2.1
    · exact (hi.drifted (by simp [h])).2.1
  have := List.suffix_iff_eq_drop.mp (test_suffix c hw inputs)
  rw [hl] at this
  simpa using this

/-- if the history `pre` ends in a drift, then during the
    following `1 + window_size` updates the reference window is the last `window_size`
    samples of `pre` (the test window at the moment of the drift) -/
theorem reference_after_drift (c : Cfg α) (hw : 0 < c.w) (pre post : List (X × Oracle α))
    (hd : (run c pre : State X α).drift = .drift) (hne : post ≠ []) (hn : post.length ≤ c.w + 1) :
    (run c (pre ++ post) : State X α).ref = (pre.map Prod.fst).drop (pre.length - c.w) := by
  rw [(silent_after_drift_run c hw pre post hd hne hn).ref]
  exact test_is_last_window c hw pre (Or.inr hd)

/-- `PCACD.__init__`: what `mkCfg` produces when it produces something (then `step ≥ 1`; it
    returns `none` exactly when `min(100, round(sample_period * window_size)) ≤ 0`, by its definition) -/
theorem mkCfg_spec (w : Nat) (sp delta : α) (m : Metric) (sc : Bool) (c : Cfg α)
    (h : mkCfg w sp delta m sc = some c) :
    c.w = w ∧ c.bins = Nat.sqrt w ∧ c.metric = m ∧ c.scaling = sc ∧
    (c.step : Int) = min 100 (pyRound (sp * ((w : Nat) : α))) ∧ 0 < c.step ∧ c.step ≤ 100 ∧
    c.ph.delta = delta ∧ c.ph.burnIn = 0 ∧ c.ph.dir = .positive ∧
    c.ph.threshold = ((pyRound ((one / ((100 : Nat) : α)) * ((w : Nat) : α)) : Int) : α) := by
  unfold mkCfg at h
  generalize pyRound (sp * ((w : Nat) : α)) = r at h ⊢
  dsimp only at h
  rw [show (if r < 100 then r else 100) = min 100 r by split <;> omega] at h
  by_cases hr : min 100 r ≤ 0
  · simp [hr] at h
  · simp only [hr, if_false, Option.some.injEq] at h
    subst h
    have hst : (((min 100 r).toNat : Nat) : Int) = min 100 r ∧ 0 < (min 100 r).toNat ∧
        (min 100 r).toNat ≤ 100 := by omega
    exact ⟨rfl, rfl, rfl, rfl, hst.1, hst.2.1, hst.2.2, rfl, rfl, rfl, rfl⟩

/-- which oracle fields two oracles must share for a given `need` -/
def agree (n : Need) (o o' : Oracle α) : Prop :=
  match n with
  | .none => True
  | .build => o.numPcs = o'.numPcs ∧ o.refProj = o'.refProj ∧ o.testProj = o'.testProj
  | .proj => o.proj = o'.proj
  | .js => o.js = o'.js

/-- an update reads only the oracle fields announced by `need` (this is what justifies the
    harness handing over exactly those values) -/
theorem step_reads_only_needed (c : Cfg α) (s : State X α) (x : X) (o o' : Oracle α)
    (h : agree (need c s) o o') : step c s x o = step c s x o' := by
  unfold agree need at h
  cases hb : s.building
  · simp only [hb, Bool.false_eq_true, if_false] at h
    rw [step_sliding c s x o hb, step_sliding c s x o' hb, slide_eq, slide_eq]
    cases hm : c.metric <;> simp only [hm] at h
    · -- "kl": the projection is not read, the JS values only on the schedule
      simp only [slideProj_kl c hm, score_kl c hm]
      by_cases hs : scheduled c s = true
      · rw [if_pos hs] at h
        rw [h]
      · simp [hs]
    · simp only [slideProj_intersection c hm, score_intersection c hm, h]
  · simp only [hb, if_true] at h
    rw [step_building c s x o hb, step_building c s x o' hb]
    split
    · rename_i hf
      simp only [hf, if_true] at h
      obtain ⟨h1, h2, h3⟩ := h
      cases hm : c.metric
      · rw [build_kl c hm, build_kl c hm, h1]
      · rw [build_intersection c hm, build_intersection c hm, h1, h2, h3]
    · rfl

/-- the stored reference densities are the histograms of the stored
    reference projections on the stored per-component supports -/
def Aligned (c : Cfg α) (s : State X α) : Prop :=
  s.densRef = hists c.bins s.lower s.upper s.refProj

theorem aligned_step (c : Cfg α) (s : State X α) (x : X) (o : Oracle α) (h : Aligned c s) :
    Aligned c (step c s x o) := by
  unfold Aligned at *
  cases hb : s.building
  · rw [step_sliding c s x o hb, slide_eq]
    exact h
  · rw [step_building c s x o hb]
    split
    · cases hm : c.metric
      · rw [build_kl c hm, fill_eq]
        exact h
      · rw [build_intersection c hm]
    · rw [fill_eq]
      exact h

theorem aligned_run (c : Cfg α) (inputs : List (X × Oracle α)) :
    Aligned c (run c inputs : State X α) :=
  runFrom_induction c (Aligned c) (aligned_step c) init (by simp [Aligned, init, hists]) inputs

/-- same edges: with the intersection metric the change score of a reachable state compares,
    component by component, the histogram of the reference projections and the histogram of
    the current (winsorised) test projections built with the same `bins`, `lower[i]`,
    `upper[i]` — hence (`edges` being a function of these three) on the same bin edges; the
    score is the maximum of `max(1 - Σ min(p, q), 0)` over the components. -/
theorem same_edges (c : Cfg α) (hm : c.metric = .intersection) (inputs : List (X × Oracle α))
    (tp : List (List α)) (o : Oracle α) :
    let s : State X α := run c inputs
    score c s tp o =
      maxL (List.zipWith interDiv (hists c.bins s.lower s.upper s.refProj)
                                  (hists c.bins s.lower s.upper tp)) := by
  intro s
  have h : Aligned c s := aligned_run c inputs
  rw [score_intersection c hm, h]

/-- at build time the support of component i is `[min(min ref_i, min test_i), max(max ref_i, max test_i)]` -/
theorem supports_at_build (c : Cfg α) (hm : c.metric = .intersection) (s : State X α) (o : Oracle α) :
    (build c s o).lower = List.zipWith (fun r t => pyMin (minL r) (minL t)) o.refProj o.testProj ∧
    (build c s o).upper = List.zipWith (fun r t => pyMax (maxL r) (maxL t)) o.refProj o.testProj ∧
    (build c s o).numPcs = some o.numPcs ∧
    (build c s o).refProj = o.refProj ∧ (build c s o).testProj = o.testProj := by
  rw [build_intersection c hm]
  exact ⟨rfl, rfl, rfl, rfl, rfl⟩

theorem supports_frozen_while_sliding (c : Cfg α) (s : State X α) (x : X) (o : Oracle α)
    (hb : s.building = false) :
    (step c s x o).lower = s.lower ∧ (step c s x o).upper = s.upper ∧
    (step c s x o).refProj = s.refProj ∧ (step c s x o).densRef = s.densRef ∧
    (step c s x o).numPcs = s.numPcs := by
  rw [step_sliding c s x o hb, slide_eq]
  exact ⟨rfl, rfl, rfl, rfl, rfl⟩

/-- `max(1 - intersection, 0.0)` is never `<` zero in the sense of the
    carrier's own `<`; the only fact used about the carrier is that zero is not `<` itself
    (true of IEEE doubles).  A NaN raw value is returned unchanged, and `NaN < 0` is false. -/
theorem interDiv_not_neg (hz : ¬ ((zero : α) < zero)) (p q : List α) : ¬ (interDiv p q < zero) := by
  unfold interDiv pyMax
  split
  · exact hz
  · assumption

/-- `max(list)` is one of the list's values, zero for the empty list: what holds of zero and of
    every member holds of the maximum -/
theorem maxL_ind (P : α → Prop) (l : List α) (h0 : P zero) (h : ∀ v ∈ l, P v) : P (maxL l) := by
  cases l with
  | nil => exact h0
  | cons a t =>
    -- `pyMax` returns one of its arguments, so a fold of it is a member: `foldl_pick_spec` with the
    -- trivial relation
    exact h _ (foldl_pick_spec (r := fun _ _ => True) (fun _ => trivial) (fun _ _ _ _ _ => trivial)
      (f := pyMax) (fun a b => ⟨by unfold pyMax; split <;> simp, trivial, trivial⟩) t a).1

theorem mem_zipWith {β γ δ : Type} {f : β → γ → δ} {l₁ : List β} {l₂ : List γ} {x : δ}
    (h : x ∈ List.zipWith f l₁ l₂) : ∃ a ∈ l₁, ∃ b ∈ l₂, x = f a b := by
  rw [← List.map_uncurry_zip_eq_zipWith] at h
  obtain ⟨⟨a, b⟩, hab, rfl⟩ := List.mem_map.mp h
  exact ⟨a, (List.of_mem_zip hab).1, b, (List.of_mem_zip hab).2, rfl⟩

/-- the score fed to Page-Hinkley is never negative (intersection metric, every carrier, every
    state and oracle): `¬ (score < 0)` — so the monitor's running mean cannot be dragged below
    zero by a rounding residue of `1 - Σ min(p, q)`. -/
theorem score_not_neg (hz : ¬ ((zero : α) < zero)) (c : Cfg α) (hm : c.metric = .intersection)
    (s : State X α) (tp : List (List α)) (o : Oracle α) : ¬ (score c s tp o < zero) := by
  rw [score_intersection c hm]
  refine maxL_ind (fun v => ¬ v < zero) _ hz fun v hv => ?_
  obtain ⟨p, _, q, _, rfl⟩ := mem_zipWith hv
  exact interDiv_not_neg hz p q

instance : HasTrunc Int := ⟨id⟩

/-- window 1, a score at every sliding update, Page-Hinkley(delta 0, threshold 0, burn-in 0) -/
def exCfg : Cfg Int :=
  { w := 1, step := 1, bins := 1, metric := .kl, scaling := true,
    ph := { delta := 0, threshold := 0, burnIn := 0, dir := .positive } }

/-- samples 1..4: fill reference, fill test (build, one component), score 0, score 2 -/
def exInputs : List (Nat × Oracle Int) :=
  [(1, {}), (2, { numPcs := 1 }), (3, { js := [0] }), (4, { js := [2] })]

-- the hypotheses of `silent_after_drift_run` / `reference_after_drift` / `drift_then_building` are satisfiable
example : (run exCfg exInputs).drift = .drift := by decide +kernel
example : (run exCfg exInputs).scores = [0, 0, 2] := by decide +kernel
-- sample 5 is discarded, the former test window [4] is the reference, `samples_since_reset`
-- restarts at 0; sample 6 refills the test window
example : let s := run exCfg (exInputs ++ [(5, ({} : Oracle Int))])
    s.ref = [4] ∧ s.test = [] ∧ s.since = 0 ∧ s.total = 5 ∧ s.drift = .none ∧ s.building = true := by decide +kernel
example : let s := run exCfg (exInputs ++ [(5, ({} : Oracle Int)), (6, { numPcs := 2 })])
    s.ref = [4] ∧ s.test = [6] ∧ s.since = 1 ∧ s.building = false ∧ s.numPcs = some 2 := by decide +kernel
-- `silent_until_full` at its boundary: after 2·w samples nothing has been scored, one more sample scores
example : (run exCfg (exInputs.take 2)).scores = [0] ∧ (run exCfg (exInputs.take 2)).building = false := by decide +kernel
-- `drift_iff_ph_alarm` / `ph_alarm_iff_check`: the state before the alarm is sliding, scheduled and reachable
example : (run exCfg (exInputs.take 3)).building = false ∧ (run exCfg (exInputs.take 3)).total % exCfg.step = 0
    ∧ (run exCfg (exInputs.take 3)).ph.drift = .none := by decide +kernel
-- `need`: build oracle on the sample that fills the test window, JS values on scheduled sliding updates
example : need exCfg (run exCfg (exInputs.take 1)) = .build ∧ need exCfg (run exCfg (exInputs.take 2)) = .js
    ∧ need exCfg (run exCfg exInputs) = .none := by decide +kernel

end Structural

section Field
set_option linter.unusedSectionVars false
variable {K : Type} [Field K] [LinearOrder K] [IsStrictOrderedRing K]

theorem zero_eq : (zero : K) = 0 := Nat.cast_zero
theorem one_eq : (one : K) = 1 := Nat.cast_one

theorem sumL_eq (l : List K) : sumL l = l.sum := by
  simp [sumL, foldl_add_eq_sum, zero_eq]

/-- a vector that sums to one has intersection divergence 0 with itself -/
theorem intersection_self (p : List K) (hp : sumL p = 1) : interDiv p p = 0 := by
  have : List.zipWith pyMin p p = p := by simp [List.zipWith_self, pyMin_eq_min]
  rw [interDiv, rawInterDiv, this, hp, one_eq, sub_self, zero_eq, pyMax_eq_max, max_self]

theorem interDiv_eq_raw (p q : List K) (h : 0 ≤ rawInterDiv p q) : interDiv p q = rawInterDiv p q := by
  rw [interDiv, pyMax_eq_max, zero_eq, max_eq_left h]

theorem interDiv_nonneg (p q : List K) : 0 ≤ interDiv p q := by
  rw [interDiv, pyMax_eq_max, zero_eq]
  exact le_max_right _ _

/-- the clamped divergence of non-negative vectors is at most one, whatever they sum to -/
theorem interDiv_le_one (p q : List K) (hp : ∀ x ∈ p, 0 ≤ x) (hq : ∀ x ∈ q, 0 ≤ x) :
    interDiv p q ≤ 1 := by
  have h : 0 ≤ (List.zipWith pyMin p q).sum := by
    refine List.sum_nonneg fun x hx => ?_
    obtain ⟨a, ha, b, hb, rfl⟩ := mem_zipWith hx
    rw [pyMin_eq_min]
    exact le_min (hp a ha) (hq b hb)
  rw [interDiv, pyMax_eq_max, zero_eq, rawInterDiv, sumL_eq, one_eq]
  exact max_le (sub_le_self 1 h) zero_le_one

/-- the intersection divergence of non-negative vectors lies in [0, 1] (the model's `zipWith`
    truncates to the shorter vector; numpy would refuse unequal lengths).  `hs` is not used: the
    bounds do not depend on the sum (`interDiv_nonneg`, `interDiv_le_one`); what the sum decides is
    whether the clamp is active (`interDiv_eq_raw`). -/
theorem intersection_range (p q : List K) (hp : ∀ x ∈ p, 0 ≤ x) (hq : ∀ x ∈ q, 0 ≤ x)
    (hs : sumL p = 1) : 0 ≤ interDiv p q ∧ interDiv p q ≤ 1 :=
  ⟨interDiv_nonneg p q, interDiv_le_one p q hp hq⟩

/-- the order of the arguments of Python's `min` decides only which of two equal values is returned -/
theorem pyMin_comm (a b : K) : pyMin a b = pyMin b a := by
  rw [pyMin_eq_min, pyMin_eq_min, min_comm]

theorem normalise_sum (d : List K) (h : sumL d ≠ 0) : sumL (normalise d) = 1 := by
  rw [sumL_eq] at h
  simp only [normalise, sumL_eq, sum_map_div]
  exact div_self h

theorem normalise_map_div (l : List K) (k : K) (hk : k ≠ 0) :
    normalise (l.map (· / k)) = normalise l := by
  simp only [normalise, sumL_eq, List.map_map, sum_map_div]
  apply List.map_congr_left
  intro x _
  exact div_div_div_cancel_right₀ hk x _

/-- a vector of non-negative values over a common divisor is normalised to one without negative
    entries, whatever the divisor: `normalise` forgets it, and a divisor 0 makes every entry 0 -/
theorem normalise_map_div_nonneg (l : List K) (k : K) (hl : ∀ x ∈ l, 0 ≤ x) :
    ∀ y ∈ normalise (l.map (· / k)), 0 ≤ y := by
  intro y hy
  rcases eq_or_ne k 0 with rfl | hk
  · simp only [normalise, List.map_map, List.mem_map, Function.comp, div_zero, zero_div] at hy
    obtain ⟨_, _, rfl⟩ := hy
    exact le_rfl
  · rw [normalise_map_div l k hk] at hy
    obtain ⟨x, hx, rfl⟩ := List.mem_map.mp hy
    exact div_nonneg (hl x hx) (sumL_eq (K := K) _ ▸ List.sum_nonneg hl)

theorem edges_length (bins : Nat) (lo hi : K) : (edges bins lo hi).length = bins + 1 := by
  simp [edges]

theorem edges_getElem (bins : Nat) (hb : 0 < bins) (lo hi : K) (j : Nat) (hj : j < bins + 1) :
    (edges bins lo hi)[j]'(by rw [edges_length]; exact hj) = (j : K) * ((hi - lo) / (bins : K)) + lo := by
  have hbK : (bins : K) ≠ 0 := by exact_mod_cast (Nat.pos_iff_ne_zero.mp hb)
  by_cases h : j < bins
  · simp [edges, List.getElem_append_left, h]
  · have hj' : j = bins := by omega
    subst hj'
    simp only [edges]
    rw [List.getElem_append_right (by simp)]
    simp only [List.length_map, List.length_range, Nat.sub_self, List.getElem_cons_zero]
    rw [mul_div_cancel₀ _ hbK, sub_add_cancel]

theorem widths_edges (bins : Nat) (hb : 0 < bins) (lo hi : K) :
    widths (edges bins lo hi) = List.replicate bins ((hi - lo) / (bins : K)) := by
  apply List.ext_getElem
  · simp [widths, edges_length]
  · intro j h1 h2
    simp only [List.length_replicate] at h2
    simp only [widths, List.getElem_zipWith, List.getElem_drop, List.getElem_replicate]
    rw [edges_getElem bins hb lo hi j (by omega), edges_getElem bins hb lo hi (1 + j) (by omega)]
    push_cast
    ring

theorem zipWith_replicate_right {β γ δ : Type} (f : β → γ → δ) (l : List β) (n : Nat) (a : γ)
    (h : l.length = n) : List.zipWith f l (List.replicate n a) = l.map (fun b => f b a) := by
  subst h; rw [← List.map_const', List.zipWith_map_right, List.zipWith_self]

theorem natCast_sum (l : List Nat) : ((l.foldl (· + ·) 0 : Nat) : K) = (l.map (fun (c : Nat) => ((c : Nat) : K))).sum := by
  rw [foldl_add_eq_sum, Nat.zero_add]
  exact map_list_sum (Nat.castAddMonoidHom K) l

variable [HasTrunc K]

/-- `_build_histograms` returns a vector that sums to one whenever the densities do not sum to 0
    (in terms of the data: `hist_is_distribution`, some sample counted on a proper range) -/
theorem hist_sum (bins : Nat) (lo hi : K) (xs : List K)
    (h : sumL (density bins (outer lo hi).1 (outer lo hi).2 xs) ≠ 0) :
    sumL (hist bins lo hi xs) = 1 :=
  normalise_sum _ h

/-- identical windows on the same support have intersection divergence 0 -/
theorem hist_intersection_self (bins : Nat) (lo hi : K) (xs : List K)
    (h : sumL (density bins (outer lo hi).1 (outer lo hi).2 xs) ≠ 0) :
    interDiv (hist bins lo hi xs) (hist bins lo hi xs) = 0 :=
  intersection_self _ (hist_sum bins lo hi xs h)

/-- the test window repeats the reference window ⇒ score 0.  In a reachable state, with the
    intersection metric, if the (winsorised) test projections equal the reference projections
    component by component, the change score is 0 — provided every component's histogram sums to
    one (`hmass`).  `hmass` is a hypothesis here; for one component it follows from
    `scores_within_support`, `counts_total` and `hist_is_distribution` when the support is proper,
    `bins ≥ 1` and the column is non-empty (`supported_intersection_range`). -/
theorem score_zero_of_repeated_window {X : Type} (c : Cfg K) (hm : c.metric = .intersection)
    (inputs : List (X × Oracle K)) (o : Oracle K)
    (hmass : ∀ d ∈ hists c.bins (run c inputs : State X K).lower (run c inputs : State X K).upper
                      (run c inputs : State X K).refProj, sumL d = 1) :
    score c (run c inputs : State X K) (run c inputs : State X K).refProj o = 0 := by
  rw [same_edges c hm inputs, List.zipWith_self]
  refine maxL_ind (· = 0) _ zero_eq fun v hv => ?_
  obtain ⟨d, hd, rfl⟩ := List.mem_map.mp hv
  exact intersection_self d (hmass d hd)

theorem counts_length (bins : Nat) (lo hi : K) (xs : List K) : (counts bins lo hi xs).length = bins := by
  simp [counts]

/-- with at least one bin every density is its count over the same divisor: bin width times the
    number of counted samples -/
theorem density_eq (bins : Nat) (hb : 0 < bins) (lo hi : K) (xs : List K) :
    density bins lo hi xs = ((counts bins lo hi xs).map (fun (c : Nat) => ((c : Nat) : K))).map
      (· / ((hi - lo) / (bins : K) * (((counts bins lo hi xs).foldl (· + ·) 0 : Nat) : K))) := by
  simp only [density, widths_edges bins hb lo hi, List.map_map]
  rw [zipWith_replicate_right _ _ _ _ (counts_length bins lo hi xs)]
  apply List.map_congr_left
  intro c _
  exact div_div _ _ _

/-- the histogram is the vector of relative counts.  On a proper range (`lo < hi`, at least one bin) in which at
    least one sample was counted, `_build_histograms(...)["density"]` is, in exact arithmetic,
    the vector of bin counts divided by the number of counted samples: the division by the
    bin widths done by `density=True` is undone by the renormalisation. -/
theorem hist_eq_relative_counts (bins : Nat) (hb : 0 < bins) (lo hi : K) (hlt : lo < hi) (xs : List K)
    (hN : (counts bins lo hi xs).foldl (· + ·) 0 ≠ 0) :
    hist bins lo hi xs =
      (counts bins lo hi xs).map
        (fun (c : Nat) => ((c : Nat) : K) / (((counts bins lo hi xs).foldl (· + ·) 0 : Nat) : K)) := by
  have hbK : (bins : K) ≠ 0 := by exact_mod_cast (Nat.pos_iff_ne_zero.mp hb)
  have hst : (hi - lo) / (bins : K) ≠ 0 := div_ne_zero (sub_ne_zero.mpr (ne_of_gt hlt)) hbK
  have hNK : (((counts bins lo hi xs).foldl (· + ·) 0 : Nat) : K) ≠ 0 := by exact_mod_cast hN
  have hout : outer lo hi = (lo, hi) := by simp [outer, hlt]
  rw [hist, hout, density_eq bins hb, normalise_map_div _ _ (mul_ne_zero hst hNK), normalise, sumL_eq,
    ← natCast_sum, List.map_map]
  rfl

/-- the histogram has no negative entry — on any range (a reversed one has negative widths, hence
    densities, but all of one sign), and also when nothing was counted -/
theorem hist_nonneg (bins : Nat) (lo hi : K) (xs : List K) : ∀ x ∈ hist bins lo hi xs, 0 ≤ x := by
  rcases Nat.eq_zero_or_pos bins with rfl | hb
  · exact fun _ h => nomatch h
  · rw [hist, density_eq bins hb]
    refine normalise_map_div_nonneg _ _ fun y hy => ?_
    obtain ⟨c, _, rfl⟩ := List.mem_map.mp hy
    exact Nat.cast_nonneg c

/-- the histogram is a probability vector: non-negative entries that sum to one -/
theorem hist_is_distribution (bins : Nat) (hb : 0 < bins) (lo hi : K) (hlt : lo < hi) (xs : List K)
    (hN : (counts bins lo hi xs).foldl (· + ·) 0 ≠ 0) :
    (∀ x ∈ hist bins lo hi xs, 0 ≤ x) ∧ sumL (hist bins lo hi xs) = 1 := by
  refine ⟨hist_nonneg bins lo hi xs, ?_⟩
  have hNK : (((counts bins lo hi xs).foldl (· + ·) 0 : Nat) : K) ≠ 0 := by exact_mod_cast hN
  have e : ∀ (n : K) (l : List Nat), l.map (fun (c : Nat) => ((c : Nat) : K) / n) =
      (l.map (fun (c : Nat) => ((c : Nat) : K))).map (· / n) := fun n l => by simp [List.map_map]
  rw [hist_eq_relative_counts bins hb lo hi hlt xs hN, sumL_eq, e, sum_map_div, ← natCast_sum]
  exact div_self hNK

/-- the intersection divergence of two histograms lies in [0, 1].  None of the four hypotheses is
    used: by `hist_nonneg` this holds on any range, also when a histogram counted nothing. -/
theorem hist_intersection_range (bins : Nat) (hb : 0 < bins) (lo hi : K) (hlt : lo < hi) (xs ys : List K)
    (hx : (counts bins lo hi xs).foldl (· + ·) 0 ≠ 0) (hy : (counts bins lo hi ys).foldl (· + ·) 0 ≠ 0) :
    0 ≤ interDiv (hist bins lo hi xs) (hist bins lo hi ys) ∧
      interDiv (hist bins lo hi xs) (hist bins lo hi ys) ≤ 1 :=
  ⟨interDiv_nonneg _ _, interDiv_le_one _ _ (hist_nonneg bins lo hi xs) (hist_nonneg bins lo hi ys)⟩

theorem winsor_mem (lo hi p : K) (h : lo ≤ hi) : lo ≤ winsor lo hi p ∧ winsor lo hi p ≤ hi := by
  unfold winsor
  split
  · exact ⟨le_refl _, h⟩
  · split
    · exact ⟨h, le_refl _⟩
    · exact ⟨not_lt.mp ‹_›, not_lt.mp ‹_›⟩

theorem winsor_id (lo hi p : K) (h1 : lo ≤ p) (h2 : p ≤ hi) : winsor lo hi p = p := by
  unfold winsor
  simp [not_lt.mpr h1, not_lt.mpr h2]

theorem minL_le (l : List K) : ∀ v ∈ l, minL l ≤ v := by
  cases l with
  | nil => simp
  | cons x t => exact (foldl_pick_spec le_refl (fun _ _ _ => le_trans) pyMin_pick t x).2

theorem le_maxL (l : List K) : ∀ v ∈ l, v ≤ maxL l := by
  cases l with
  | nil => simp
  | cons x t =>
    exact (foldl_pick_spec (r := (· ≥ ·)) le_refl (fun _ _ _ h1 h2 => le_trans h2 h1) pyMax_pick t x).2

theorem minL_le_maxL (l : List K) : minL l ≤ maxL l := by
  cases l with
  | nil => simp [minL, maxL]
  | cons x t => exact (minL_le (x :: t) x (by simp)).trans (le_maxL (x :: t) x (by simp))

/-- every score of every component's column lies inside that component's support -/
def Within (lower upper : List K) (P : List (List K)) : Prop :=
  ∀ (i : Nat) (lo hi : K) (col : List K), lower[i]? = some lo → upper[i]? = some hi →
    P[i]? = some col → lo ≤ hi ∧ ∀ v ∈ col, lo ≤ v ∧ v ≤ hi

theorem within_nil (lower upper : List K) : Within lower upper [] := by
  intro i lo hi col _ _ h; simp at h

theorem within_build (R T : List (List K)) :
    Within (List.zipWith (fun r t => pyMin (minL r) (minL t)) R T)
           (List.zipWith (fun r t => pyMax (maxL r) (maxL t)) R T) R ∧
    Within (List.zipWith (fun r t => pyMin (minL r) (minL t)) R T)
           (List.zipWith (fun r t => pyMax (maxL r) (maxL t)) R T) T := by
  -- at index `i` the support is `[min (min r) (min t), max (max r) (max t)]` for the columns `r`, `t` there
  have key : ∀ (i : Nat) (lo hi : K), (List.zipWith (fun r t => pyMin (minL r) (minL t)) R T)[i]? = some lo →
      (List.zipWith (fun r t => pyMax (maxL r) (maxL t)) R T)[i]? = some hi →
      ∃ r t, R[i]? = some r ∧ T[i]? = some t ∧ lo ≤ hi ∧
        (∀ v ∈ r, lo ≤ v ∧ v ≤ hi) ∧ ∀ v ∈ t, lo ≤ v ∧ v ≤ hi := by
    intro i lo hi h1 h2
    obtain ⟨r, t, hr, ht, rfl⟩ := List.getElem?_zipWith_eq_some.mp h1
    rw [List.getElem?_zipWith, hr, ht] at h2
    obtain rfl := Option.some.inj h2
    rw [pyMin_eq_min, pyMax_eq_max]
    exact ⟨r, t, hr, ht, (min_le_left _ _).trans ((minL_le_maxL r).trans (le_max_left _ _)),
      fun v hv => ⟨(min_le_left _ _).trans (minL_le r v hv), (le_maxL r v hv).trans (le_max_left _ _)⟩,
      fun v hv => ⟨(min_le_right _ _).trans (minL_le t v hv), (le_maxL t v hv).trans (le_max_right _ _)⟩⟩
  constructor
  · intro i lo hi col h1 h2 h3
    obtain ⟨r, t, hr, _, hle, hR, _⟩ := key i lo hi h1 h2
    obtain rfl : r = col := Option.some.inj (hr.symm.trans h3)
    exact ⟨hle, hR⟩
  · intro i lo hi col h1 h2 h3
    obtain ⟨r, t, _, ht, hle, _, hT⟩ := key i lo hi h1 h2
    obtain rfl : t = col := Option.some.inj (ht.symm.trans h3)
    exact ⟨hle, hT⟩

theorem within_slide (lower upper : List K) (P : List (List K)) (proj : List K)
    (h : Within lower upper P) :
    Within lower upper
      (List.zipWith (fun col v => col.drop 1 ++ [v]) P (winsorAll lower upper proj)) := by
  intro i lo hi col' h1 h2 h3
  obtain ⟨col, v, hc, hv, rfl⟩ := List.getElem?_zipWith_eq_some.mp h3
  -- the new value is a projection winsorised to this component's support
  obtain ⟨lu, p, hz, _, rfl⟩ := List.getElem?_zipWith_eq_some.mp hv
  obtain ⟨z1, z2⟩ := List.getElem?_zip_eq_some.mp hz
  obtain rfl : lu.1 = lo := Option.some.inj (z1.symm.trans h1)
  obtain rfl : lu.2 = hi := Option.some.inj (z2.symm.trans h2)
  obtain ⟨hle, hcol⟩ := h i _ _ col h1 h2 hc
  refine ⟨hle, fun u hu => ?_⟩
  rcases List.mem_append.mp hu with hu | hu
  · exact hcol u (List.mem_of_mem_drop hu)
  · rw [List.mem_singleton.mp hu]
    exact winsor_mem _ _ p hle

/-- the per-component supports contain every stored score -/
def Supported {X : Type} (s : State X K) : Prop :=
  Within s.lower s.upper s.refProj ∧ Within s.lower s.upper s.testProj

theorem supported_step {X : Type} (c : Cfg K) (s : State X K) (x : X) (o : Oracle K) (h : Supported s) :
    Supported (step c s x o) := by
  obtain ⟨hr, ht⟩ := h
  cases hb : s.building
  · rw [step_sliding c s x o hb, slide_eq]
    refine ⟨hr, ?_⟩
    show Within s.lower s.upper (slideProj c s o)
    cases hm : c.metric
    · rw [slideProj_kl c hm]
      exact ht
    · rw [slideProj_intersection c hm]
      exact within_slide _ _ _ _ ht
  · rw [step_building c s x o hb]
    split
    · cases hm : c.metric
      · rw [build_kl c hm, fill_eq]
        exact ⟨hr, ht⟩
      · rw [build_intersection c hm]
        exact within_build o.refProj o.testProj
    · rw [fill_eq]
      exact ⟨hr, ht⟩

/-- aligned supports: in every reachable state, for every retained component, all reference
    scores and all (winsorised) test scores lie inside that component's support
    `[lower[i], upper[i]]` (and `lower[i] ≤ upper[i]`).  So no sample of either window is dropped
    by the range filter of `np.histogram` (`filter_keeps_all`) and both histograms count whole
    windows (`counts_total`); these consequences are stated for one column, and are not carried
    further to `score`. -/
theorem scores_within_support {X : Type} (c : Cfg K) (inputs : List (X × Oracle K)) :
    Supported (run c inputs : State X K) :=
  runFrom_induction c Supported (supported_step c) init ⟨within_nil _ _, within_nil _ _⟩ inputs

/-- consequently the range filter of the histogram keeps every score of a supported column -/
theorem filter_keeps_all (lo hi : K) (col : List K) (h : ∀ v ∈ col, lo ≤ v ∧ v ≤ hi) :
    col.filter (fun x => decide (lo ≤ x) && decide (x ≤ hi)) = col := by
  rw [List.filter_eq_self]
  intro v hv
  simp [h v hv]

/-- numpy's three corrections of a truncated position `i0 ≤ bins` (the right edge goes into the last bin,
    one down, one up unless already in the last bin) leave an index below `bins`, whatever the two
    comparisons `p`, `q` with the edges say -/
theorem binCorrections_lt {bins i0 : Nat} (hb : 0 < bins) (h0 : i0 ≤ bins) (p q : Nat → Prop)
    [DecidablePred p] [DecidablePred q] :
    let i1 := if i0 = bins then i0 - 1 else i0
    let i2 := if p i1 then i1 - 1 else i1
    (if q i2 ∧ i2 ≠ bins - 1 then i2 + 1 else i2) < bins := by
  intro i1 i2
  have k1 : i1 < bins := by
    show (if i0 = bins then i0 - 1 else i0) < bins
    split
    · rw [‹i0 = bins›]; exact Nat.sub_lt hb Nat.one_pos
    · exact Nat.lt_of_le_of_ne h0 ‹_›
  have k2 : i2 < bins := by
    show (if p i1 then i1 - 1 else i1) < bins
    split
    exacts [Nat.lt_of_le_of_lt (Nat.sub_le _ _) k1, k1]
  split
  · exact Nat.lt_of_le_of_ne k2 fun e => ‹_ ∧ i2 ≠ bins - 1›.2 (Nat.eq_sub_of_add_eq e)
  · exact k2

theorem binIndex_lt (htr : ∀ y : K, 0 ≤ y → ((truncInt y : Int) : K) ≤ y)
    (bins : Nat) (hb : 0 < bins) (lo hi : K) (hlt : lo < hi) (E : List K) (x : K)
    (h1 : lo ≤ x) (h2 : x ≤ hi) : binIndex bins lo hi E x < bins := by
  obtain ⟨hf0, hf1⟩ := binScale_bounds bins hlt h1 h2
  -- the truncated position is at most `bins`
  exact binCorrections_lt hb
    (Int.toNat_le.mpr (Int.cast_le.mp (((htr _ hf0).trans hf1).trans_eq (Int.cast_natCast bins).symm)))
    (fun i => x < E.getD i zero) (fun i => E.getD (i + 1) zero ≤ x)

/-- if every sample lies in `[lo, hi]` (a proper range) the bin counts add up to the number of
    samples: nothing is dropped, nothing lands outside the `bins` bins.  `htr` is the only law
    asked of the carrier's truncation: it does not exceed a non-negative argument. -/
theorem counts_total (htr : ∀ y : K, 0 ≤ y → ((truncInt y : Int) : K) ≤ y)
    (bins : Nat) (hb : 0 < bins) (lo hi : K) (hlt : lo < hi) (xs : List K)
    (h : ∀ v ∈ xs, lo ≤ v ∧ v ≤ hi) :
    (counts bins lo hi xs).foldl (· + ·) 0 = xs.length := by
  unfold counts
  simp only
  rw [filter_keeps_all lo hi xs h, foldl_add_eq_sum, Nat.zero_add, count_sum bins _
    (List.forall_mem_map.2 fun v hv => binIndex_lt htr bins hb lo hi hlt _ v (h v hv).1 (h v hv).2),
    List.length_map]

/-- for a non-empty column `xs` inside a proper support the histogram is a probability vector, so
    its intersection divergence with itself is 0; the divergence with any other histogram lies in
    [0, 1].  `hy`, `hyn` are not used, and the range needs none of the hypotheses (`hist_nonneg`). -/
theorem supported_intersection_range (htr : ∀ y : K, 0 ≤ y → ((truncInt y : Int) : K) ≤ y)
    (bins : Nat) (hb : 0 < bins) (lo hi : K) (hlt : lo < hi) (xs ys : List K)
    (hx : ∀ v ∈ xs, lo ≤ v ∧ v ≤ hi) (hy : ∀ v ∈ ys, lo ≤ v ∧ v ≤ hi) (hxn : xs ≠ []) (hyn : ys ≠ []) :
    0 ≤ interDiv (hist bins lo hi xs) (hist bins lo hi ys) ∧
      interDiv (hist bins lo hi xs) (hist bins lo hi ys) ≤ 1 ∧
      interDiv (hist bins lo hi xs) (hist bins lo hi xs) = 0 := by
  have nx : (counts bins lo hi xs).foldl (· + ·) 0 ≠ 0 := by
    rw [counts_total htr bins hb lo hi hlt xs hx]; simpa using hxn
  exact ⟨interDiv_nonneg _ _,
    interDiv_le_one _ _ (hist_nonneg bins lo hi xs) (hist_nonneg bins lo hi ys),
    intersection_self _ (hist_is_distribution bins hb lo hi hlt xs nx).2⟩

/-- every intersection score lies in [0, 1] — in any state whose reference densities are the stored
    histograms, for any test projections, on any supports: the clamp keeps it from below, and
    `Σ min(p, q)` of vectors without negative entries is not negative -/
theorem score_in_unit_interval {X : Type} (c : Cfg K) (hm : c.metric = .intersection) (s : State X K)
    (tp : List (List K)) (o : Oracle K) (h : Aligned c s) :
    0 ≤ score c s tp o ∧ score c s tp o ≤ 1 := by
  have hn : ∀ (P : List (List K)), ∀ d ∈ hists c.bins s.lower s.upper P, ∀ x ∈ d, 0 ≤ x := by
    intro P d hd
    obtain ⟨lu, _, col, _, rfl⟩ := mem_zipWith hd
    exact hist_nonneg c.bins lu.1 lu.2 col
  rw [score_intersection c hm, h]
  refine maxL_ind (fun v => 0 ≤ v ∧ v ≤ 1) _ (by simp [zero_eq]) fun v hv => ?_
  obtain ⟨p, hp, q, hq, rfl⟩ := mem_zipWith hv
  exact ⟨interDiv_nonneg p q, interDiv_le_one p q (hn _ p hp) (hn _ q hq)⟩

/-- in a reachable state, with the intersection metric, the score computed by a sliding update —
    the maximum over the components of `max(1 - Σ min(p_ref, p_test), 0)` — lies in [0, 1].
    `htr`, `hb`, `hne`, `hprop` are not used: this is `score_in_unit_interval` at `aligned_run`,
    which needs no condition on the truncation, the bins, the supports or the columns. -/
theorem step_score_in_unit_interval {X : Type}
    (htr : ∀ y : K, 0 ≤ y → ((truncInt y : Int) : K) ≤ y)
    (c : Cfg K) (hm : c.metric = .intersection) (hb : 0 < c.bins)
    (inputs : List (X × Oracle K)) (o : Oracle K)
    (hne : ∀ col ∈ (run c inputs : State X K).refProj, col ≠ [])
    (hprop : ∀ (i : Nat) (lo hi : K), (run c inputs : State X K).lower[i]? = some lo →
      (run c inputs : State X K).upper[i]? = some hi → lo < hi) :
    0 ≤ score c (run c inputs : State X K) (slideProj c (run c inputs : State X K) o) o ∧
      score c (run c inputs : State X K) (slideProj c (run c inputs : State X K) o) o ≤ 1 :=
  score_in_unit_interval c hm _ _ o (aligned_run c inputs)

end Field

end MV.PCACD
