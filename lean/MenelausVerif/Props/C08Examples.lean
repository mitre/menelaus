/-
  C08 — non-vacuity over ℚ: four points on a line and the tree `build` makes of them (`exData`, `exCfg`, `exTree`,
  `ex_build`), for which the hypotheses of the build theorems hold; fills, cells and `to_plotly_dataframe` rows computed.
  The instance `HasTrunc ℚ` is global: the examples of the other kdq-tree property files compute with it.
-/
import MenelausVerif.Props.C08
import Mathlib.Data.Rat.Floor
namespace MV.Kdq

section examples

-- truncation of non-negative rationals; global, for the examples here and in the files that import this one
instance : HasTrunc ℚ := ⟨fun x => (Int.toNat ⌊x⌋ : ℚ)⟩

/-- four points on a line, `count_ubound = 1`: splits at 3/2, then 1/2 and 5/2 -/
def exData : List (List ℚ) := [[0], [1], [2], [3]]
def exCfg : Cfg ℚ := { countUbound := 1, cplb := 0 }

def exTree : Tree ℚ :=
  .node 0 (3/2) [(0, 4)]
    (.node 0 (1/2) [(0, 2)] (.leaf [(0, 1)]) (.leaf [(0, 1)]))
    (.node 0 (5/2) [(0, 2)] (.leaf [(0, 1)]) (.leaf [(0, 1)]))

theorem ex_build : build exCfg 1 exData = some exTree := by decide +kernel

/-- the hypotheses of `build_terminates` are satisfiable (ℚ, `int()` = floor of non-negatives) -/
example : ∃ t, build exCfg 1 exData = some t ∧ (exData ≠ [] → 0 < 1 → t.noNilBelow = true) :=
  build_terminates exCfg (le_refl _) (fun _ _ => Nat.cast_nonneg _) 1 exData

/-- the hypotheses of the build theorems are satisfiable by a tree with three splits -/
example : ChildrenSum 0 exTree := build_children_sum split_partition exCfg (by decide) exData exTree ex_build
example : (leafCountsD exTree 0).sum = 4 := build_leaf_sum split_partition exCfg (by decide) exData exTree ex_build
example : Inv exTree := build_inv split_partition exCfg (by decide) exData exTree ex_build rfl

/-- an internal node below the root, with the rows it holds (`Holds`), as used by `build_every_node` -/
example : Holds exTree 0 exData (.node 0 (1/2) [(0, 2)] (.leaf [(0, 1)]) (.leaf [(0, 1)])) 1 [[0], [1]] := by
  have h : exData.filter (goesDown 0 (3/2 : ℚ)) = [[0], [1]] := by decide +kernel
  exact Holds.left (h ▸ Holds.here _ _ _)

/-- a fill with a point exactly on a split value (1/2 goes left: `≤`), one inside the third cell, one
    beyond the data range (last cell): each lands in exactly one leaf; a second fill accumulates; reset
    overwrites -/
example : leafCountsD (fill 1 false [[1/2], [2], [7]] exTree) 1 = [1, 0, 1, 1] := by decide +kernel
example : leafCountsD (fill 1 false [[0]] (fill 1 false [[1/2], [2], [7]] exTree)) 1 = [2, 0, 1, 1] := by
  decide +kernel
example : leafCountsD (fill 1 true [[0]] (fill 1 false [[1/2], [2], [7]] exTree)) 1 = [1, 0, 0, 0] := by
  decide +kernel
example : descend [(1/2 : ℚ)] exTree = 0 ∧ descend [(7 : ℚ)] exTree = 3 := by decide +kernel

/-- filling the build data under id 1 reproduces the build counts at all 7 nodes -/
example : nodeCounts 1 (fill 1 false exData exTree) = nodeCounts 0 exTree := by decide +kernel

/-- `to_plotly_dataframe` rows of the example: 7 rows, parents 0,1,1,0,4,4 -/
example : (flatten (fill 1 false [[1/2], [2], [7]] exTree) 0 (some 1)).map (fun r => (r.idx, r.parent, r.cell, r.depth, r.diff)) =
    [(0, none, 4, 0, some (-1)), (1, some 0, 2, 1, some (-1)), (2, some 1, 1, 2, some 0), (3, some 1, 1, 2, some (-1)),
     (4, some 0, 2, 1, some 0), (5, some 4, 1, 2, some 0), (6, some 4, 1, 2, some 0)] := by decide +kernel

/-- duplicated rows / a constant axis: the stop rule makes a leaf (`ptp = 0`), no split, no loop -/
example : build exCfg 1 [[(5 : ℚ)], [5], [5]] = some (.leaf [(0, 3)]) := by decide +kernel

end examples

end MV.Kdq
