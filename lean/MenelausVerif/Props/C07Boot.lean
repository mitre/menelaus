/-
  C07 — the bootstrap estimate ε₀ of HDDDM / CDBD (`_estimate_initial_epsilon`), modelled in
  Model/HDMBoot.lean, and `update` with that estimate computed by the model (`updateB`).

  Every carrier (no arithmetic law; holds for the executed `Float` instance): sizes and counts of the
  two nested pair loops; ε₀ reads the reference only at the drawn positions and not their order inside a
  subset; with at most two subsets there is no ε-term.  **Connection**: the bootstrap form is the oracle
  form of Model/HDM.lean with the model's ε₀ as oracle value (`updateB_cases`, `stepB_cases`,
  `runB_cases`: equal, unless `subsets = 0` rejects the call), so every C07 theorem transfers
  (`runB_inv`, `updateB_drift_iff` are two of them).
  Ordered fields: ε₀ ≥ 0, and ε₀ = 0 exactly when all pairwise subset distances coincide
  (`epsOfDistances_eq_zero_iff`); the subset size is `(k−1)·n / k` when `truncNat` is the floor.
  ℝ (Props/C07Real.lean): on the second batch of an epoch (`detect_batch ≠ 3`) the recorded threshold is the
  model's ε₀.
  Not covered: rounding of the `Float` instance; the distribution of the draws (they are inputs; their
  shape is the executable predicate `validDraws`, evaluated by the driver).
-/
import MenelausVerif.Model.HDMBoot
import MenelausVerif.Props.C07
import Mathlib.Algebra.Order.BigOperators.Group.List
import Mathlib.Algebra.Order.Floor.Semifield
namespace MV.HDM
open MV
-- statements below take every instance argument of their section, used or not (`#check` before using one at a new carrier)
set_option linter.unusedSectionVars false

section anyCarrier
variable {α : Type} [Add α] [Sub α] [Mul α] [Div α] [Neg α] [LT α] [DecidableLT α]
  [LE α] [DecidableLE α] [NatCast α] [BEq α] [HasSqrt α] [HasLogExp α] [HasLog1p α] [HasTrunc α]

/-- **subset size** as coded: `int((1 - (1 / num_subsets)) * reference_n)` -/
theorem bootSize_def (k refN : Nat) :
    bootSize α k refN = truncNat (((one : α) - (one : α) / (k : α)) * (refN : α)) := rfl

theorem pairsOf_length_two_mul {β : Type} (l : List β) :
    2 * (pairsOf l).length = l.length * (l.length - 1) := by
  induction l with
  | nil => rfl
  | cons x xs ih =>
    simp only [pairsOf, List.length_append, List.length_map, List.length_cons, Nat.add_sub_cancel]
    rw [Nat.mul_add, ih]
    cases xs.length with
    | zero => rfl
    | succ m => simp only [Nat.add_sub_cancel]; ring

/-- the two nested loops `i < j` visit `n(n−1)/2` pairs -/
theorem pairsOf_length {β : Type} (l : List β) :
    (pairsOf l).length = l.length * (l.length - 1) / 2 := by
  have := pairsOf_length_two_mul l
  omega

theorem mem_pairsOf {β : Type} (l : List β) (p : β × β) (h : p ∈ pairsOf l) : p.1 ∈ l ∧ p.2 ∈ l := by
  induction l with
  | nil => simp [pairsOf] at h
  | cons x xs ih =>
    simp only [pairsOf, List.mem_append, List.mem_map] at h
    rcases h with ⟨y, hy, rfl⟩ | h
    · exact ⟨List.mem_cons_self, List.mem_cons_of_mem _ hy⟩
    · exact ⟨List.mem_cons_of_mem _ (ih h).1, List.mem_cons_of_mem _ (ih h).2⟩

/-- **number of pairwise distances and of ε-terms**: `s` subsets give `s(s−1)/2` distances, and `m`
    distances give `m(m−1)/2` summands of ε₀ -/
theorem boot_counts (d : Divergence α) (bins dim : Nat) (rg : Nat → α × α) (ref : List (List α))
    (draws : List (List Nat)) :
    (bootHists bins dim rg ref draws).length = draws.length ∧
    (bootDistances d (bootHists bins dim rg ref draws)).length = draws.length * (draws.length - 1) / 2 ∧
    ∀ ds : List α, (epsTerms ds).length = ds.length * (ds.length - 1) / 2 := by
  have hl : (bootHists bins dim rg ref draws).length = draws.length := List.length_map ..
  exact ⟨hl, by rw [bootDistances, List.length_map, pairsOf_length, hl],
    fun ds => by rw [epsTerms, List.length_map, pairsOf_length]⟩

theorem subsetHists_shape (bins dim : Nat) (rg : Nat → α × α) (rows : List (List α)) :
    (subsetHists bins dim rg rows).length = dim ∧ ∀ h ∈ subsetHists bins dim rg rows, h.length = bins := by
  constructor
  · simp [subsetHists]
  · intro h hh
    simp only [subsetHists, List.mem_map] at hh
    obtain ⟨f, _, rfl⟩ := hh
    exact hist_length _ _ _ _

theorem validDraws_iff (k refN refLen : Nat) (draws : List (List Nat)) :
    validDraws α k refN refLen draws = true ↔
      draws.length = k ∧ ∀ idx ∈ draws, idx.length = bootSize α k refN ∧ ∀ i ∈ idx, i < refLen := by
  simp [validDraws]

/-- positions inside the frame all pick a row: a valid draw yields a subset of exactly `size` rows -/
theorem sampleRows_length (ref : List (List α)) (idx : List Nat) (h : ∀ i ∈ idx, i < ref.length) :
    (sampleRows ref idx).length = idx.length := by
  induction idx with
  | nil => rfl
  | cons i is ih =>
    rw [sampleRows, List.filterMap_cons, List.getElem?_eq_getElem (h i List.mem_cons_self)]
    exact congrArg Nat.succ (ih fun j hj => h j (List.mem_cons_of_mem _ hj))

/-- **ε₀ depends on the reference only through the sampled rows**: two references that agree at every
    drawn position give the same estimate (whatever else they contain, whatever their lengths) -/
theorem boot_reads_only_sampled_rows (d : Divergence α) (bins dim : Nat) (rg : Nat → α × α) (k : Nat)
    (ref ref' : List (List α)) (draws : List (List Nat))
    (h : ∀ idx ∈ draws, ∀ i ∈ idx, ref[i]? = ref'[i]?) :
    bootEps d bins dim rg k ref draws = bootEps d bins dim rg k ref' draws := by
  have : bootHists bins dim rg ref draws = bootHists bins dim rg ref' draws :=
    List.map_congr_left fun idx hidx => by
      rw [sampleRows, sampleRows, List.filterMap_congr (h idx hidx)]
  rw [bootEps, this, bootEps]

theorem subsetHists_perm (bins dim : Nat) (rg : Nat → α × α) (ref : List (List α)) {idx idx' : List Nat}
    (h : idx.Perm idx') :
    subsetHists bins dim rg (sampleRows ref idx) = subsetHists bins dim rg (sampleRows ref idx') := by
  unfold subsetHists
  apply List.map_congr_left
  intro f _
  apply hist_perm'
  unfold colOf sampleRows
  exact (h.filterMap _).filterMap _

/-- **the order of the positions inside a subset is irrelevant** -/
theorem bootEps_perm_within (d : Divergence α) (bins dim : Nat) (rg : Nat → α × α) (k : Nat)
    (ref : List (List α)) (draws draws' : List (List Nat)) (h : List.Forall₂ List.Perm draws draws') :
    bootEps d bins dim rg k ref draws = bootEps d bins dim rg k ref draws' := by
  have : bootHists bins dim rg ref draws = bootHists bins dim rg ref draws' :=
    List.forall₂_eq_eq_eq ▸ List.forall₂_map_left_iff.2
      (List.forall₂_map_right_iff.2 (h.imp fun _ _ => subsetHists_perm bins dim rg ref))
  rw [bootEps, this, bootEps]

/-- **subsets that draw the same multiset of rows are indistinguishable**: all pairwise distances
    coincide (each is the distance of one and the same histogram list to itself) -/
theorem bootDistances_const_of_perm (d : Divergence α) (bins dim : Nat) (rg : Nat → α × α)
    (ref : List (List α)) (draws : List (List Nat)) (h : ∀ i ∈ draws, ∀ j ∈ draws, i.Perm j) :
    ∀ a ∈ bootDistances d (bootHists bins dim rg ref draws),
      ∀ b ∈ bootDistances d (bootHists bins dim rg ref draws), a = b := by
  have hh : ∀ x ∈ bootHists bins dim rg ref draws, ∀ y ∈ bootHists bins dim rg ref draws, x = y := by
    intro x hx y hy
    obtain ⟨i, hi, rfl⟩ := List.mem_map.1 hx
    obtain ⟨j, hj, rfl⟩ := List.mem_map.1 hy
    exact subsetHists_perm bins dim rg ref (h i hi j hj)
  intro a ha b hb
  obtain ⟨p, hp, rfl⟩ := List.mem_map.1 ha
  obtain ⟨q, hq, rfl⟩ := List.mem_map.1 hb
  rw [hh _ (mem_pairsOf _ p hp).1 _ (mem_pairsOf _ q hq).1, hh _ (mem_pairsOf _ p hp).2 _ (mem_pairsOf _ q hq).2]

/-- with at most two subsets there is at most one pairwise distance, hence no ε-term at all:
    ε₀ is `0 / num_subsets` whatever the data (`subsets = 2` is one of the values harness/checks/c07.py draws) -/
theorem bootEps_few_subsets (d : Divergence α) (bins dim : Nat) (rg : Nat → α × α) (k : Nat)
    (ref : List (List α)) (draws : List (List Nat)) (h : draws.length ≤ 2) :
    bootEps d bins dim rg k ref draws = (zero : α) / (k : α) := by
  -- at most two histogram lists, at most one pairwise distance, no pair of distances
  match draws, h with
  | [], _ => rfl
  | [_], _ => rfl
  | [_, _], _ => rfl
  | _ :: _ :: _ :: _, h => exact absurd h (by simp)

/-- Model/HDMBoot.lean cannot mention `preState`, which is declared in Lemmas/HDMStep.lean, and writes the
    same `if` out as `preStateB`; the oracle record it passes to `reset` is never read. -/
theorem preStateB_eq (c : Cfg α) (o : Oracle α) (s : State α) :
    preStateB c o.tcrit s = preState c o s :=
  preState_oracle_irrelevant c (noBoot o.tcrit) o s

/-- `set_reference` in bootstrap form is `set_reference` in oracle form, for any oracle record -/
theorem setReferenceB_eq (c : Cfg α) (tc : α) (o : Oracle α) (s : State α) (X : List (List α)) :
    setReferenceB c tc s X = setReference c o s X :=
  setReference_oracle_irrelevant c (noBoot tc) o s X

theorem oracleOf_tcrit (c : Cfg α) (k : Nat) (e : Ext α) (s : State α) (X : List (List α)) :
    (oracleOf c k e s X).tcrit = e.tcrit := by
  unfold oracleOf
  split
  · split <;> rfl
  · rfl

theorem oracleOf_eq (c : Cfg α) (k : Nat) (e : Ext α) (s s0 : State α) (X : List (List α)) (d : Nat)
    (hp : preStateB c e.tcrit s = some s0) (hv : validBatch c s0.dim X = some d) :
    oracleOf c k e s X = stepOracle c k e s0 d X := by
  unfold oracleOf; simp only [hp, hv]

/-- `update` with the modelled bootstrap is the oracle-form `update` of Model/HDM.lean with the model's
    ε₀ as oracle value, except that `subsets = 0` may reject the call (`1 / num_subsets`) -/
theorem updateB_cases (c : Cfg α) (k : Nat) (e : Ext α) (s : State α) (X : List (List α)) :
    updateB c k e s X = update c (oracleOf c k e s X) s X ∨ (k = 0 ∧ updateB c k e s X = none) := by
  rw [update_eq_bind, ← preStateB_eq, oracleOf_tcrit, updateB]
  split
  · cases hp : preStateB c e.tcrit s with
    | none => exact .inl rfl
    | some s0 =>
      dsimp only [Option.bind_some]
      cases hv : validBatch c s0.dim X with
      | none => exact .inl rfl
      | some d =>
        rw [oracleOf_eq c k e s s0 X d hp hv]
        dsimp only [Option.map_some]
        split
        · next h => exact .inr ⟨by simpa using (Bool.and_eq_true_iff.1 h).2, rfl⟩
        · exact .inl rfl
  · exact .inl rfl

/-- **connection (one call)**: for `subsets ≠ 0`, `update` with the modelled bootstrap *is* the
    oracle-form `update` of Model/HDM.lean when the oracle value is the model's ε₀
    (`oracleOf … = ⟨bootEps … , tcrit⟩` on a bootstrapping batch) -/
theorem updateB_eq_update (c : Cfg α) (k : Nat) (hk : k ≠ 0) (e : Ext α) (s : State α) (X : List (List α)) :
    updateB c k e s X = update c (oracleOf c k e s X) s X :=
  (updateB_cases c k e s X).resolve_right fun h => hk h.1

/-- **connection (one call, any `subsets`)**: whatever the bootstrap form accepts, the oracle form
    accepts with the same result (`subsets = 0` only adds the `ZeroDivisionError` rejection) -/
theorem updateB_some (c : Cfg α) (k : Nat) (e : Ext α) (s s' : State α) (X : List (List α))
    (h : updateB c k e s X = some s') : update c (oracleOf c k e s X) s X = some s' := by
  rcases updateB_cases c k e s X with h' | ⟨-, h'⟩
  · rw [← h', h]
  · rw [h'] at h; cases h

theorem stepB_cases (c : Cfg α) (k : Nat) (s : State α) (op : OpB α) :
    stepB c k s op = step c s (toOp c k s op) ∨ (k = 0 ∧ stepB c k s op = none) := by
  cases op with
  | setRef X tc => exact Or.inl (setReferenceB_eq c tc _ s X)
  | batch X e => exact updateB_cases c k e s X

theorem stepB_eq_step (c : Cfg α) (k : Nat) (hk : k ≠ 0) (s : State α) (op : OpB α) :
    stepB c k s op = step c s (toOp c k s op) :=
  (stepB_cases c k s op).resolve_right fun h => hk h.1

theorem runB_cases (c : Cfg α) (k : Nat) (s : State α) (ops : List (OpB α)) :
    runB c k s ops = run c s (toOps c k s ops) ∨ (k = 0 ∧ runB c k s ops = none) := by
  induction ops generalizing s with
  | nil => exact Or.inl rfl
  | cons op ops ih =>
    simp only [runB, toOps, run]
    rcases stepB_cases c k s op with h | ⟨hk, h⟩
    · rw [← h]
      cases hs : stepB c k s op with
      | none => exact Or.inl rfl
      | some s1 => exact ih s1
    · rw [h]; exact Or.inr ⟨hk, rfl⟩

/-- **connection (histories)**: a history in bootstrap form runs exactly like its oracle-form
    translation `toOps` (same data, each oracle record filled in with the model's ε₀) — so every
    theorem about `run` / `update` of Model/HDM.lean (Props/C07, C02HDM, C17HDM, C18) applies to the
    detector with the modelled bootstrap. -/
theorem runB_eq_run (c : Cfg α) (k : Nat) (hk : k ≠ 0) (s : State α) (ops : List (OpB α)) :
    runB c k s ops = run c s (toOps c k s ops) :=
  (runB_cases c k s ops).resolve_right fun h => hk h.1

/-- … and for any `subsets` (including 0) an accepted bootstrap-form history is an accepted oracle-form history -/
theorem runB_some (c : Cfg α) (k : Nat) (s s' : State α) (ops : List (OpB α))
    (h : runB c k s ops = some s') : run c s (toOps c k s ops) = some s' := by
  rcases runB_cases c k s ops with h' | ⟨-, h'⟩
  · rw [← h', h]
  · rw [h'] at h; cases h

/-- the lifecycle invariant `Inv` of Lemmas/HDMStep holds after every accepted history of the detector with the
    modelled bootstrap (transfer of `run_inv`) -/
theorem runB_inv (c : Cfg α) (k : Nat) (ops : List (OpB α)) (s s' : State α) (hi : Inv s)
    (h : runB c k s ops = some s') : Inv s' :=
  run_inv c _ s s' hi (runB_some c k s s' ops h)

/-- **drift exactly when ε exceeds β**, with β computed from the modelled ε₀ (transfer of
    `update_drift_iff`) -/
theorem updateB_drift_iff (c : Cfg α) (k : Nat) (e : Ext α) (s s' : State α) (X : List (List α))
    (hi : Inv s) (h : updateB c k e s X = some s') :
    s'.drift = .drift ↔
      (testsDrift c s'.since = true ∧
        ∃ ε β, s'.epsValues.getLast? = some (s'.total, ε) ∧
               s'.thresholds.getLast? = some (s'.total, β) ∧ β < ε) :=
  update_drift_iff c _ s s' X hi (updateB_some c k e s s' X h)

/-- in the state in which a bootstrapping `update` body runs (reachable, in an epoch), `reference_n` is
    the length of the reference, so the driver's check of the captured draws says: `subsets` vectors of
    `size(subsets, len(reference))` positions inside the reference -/
theorem drawsOk_iff (c : Cfg α) (k : Nat) (draws : List (List Nat)) (s : State α) (hi : Inv s)
    (hn : s.drift = .none) (hr : s.hasRef = true) (hdue : bootDue c s = true) :
    drawsOk c k draws s = true ↔
      draws.length = k ∧ ∀ idx ∈ draws, idx.length = bootSize α k s.reference.length ∧
        ∀ i ∈ idx, i < s.reference.length := by
  unfold drawsOk
  rw [if_pos hdue, validDraws_iff, (hi.refOk hn hr).1]

/-- `subsets = 0`: the call on which the bootstrap is due is rejected (`1 / num_subsets` raises) -/
theorem updateB_zero_subsets (c : Cfg α) (e : Ext α) (s s0 : State α) (X : List (List α)) (d : Nat)
    (hp : preStateB c e.tcrit s = some s0) (hv : validBatch c s0.dim X = some d)
    (hdue : bootDue c s0 = true) : updateB c 0 e s X = none := by
  unfold updateB
  split
  · simp [hp, hv, hdue]
  · rfl

end anyCarrier

section field
variable {K : Type} [Field K] [LinearOrder K] [IsStrictOrderedRing K]

theorem epsTerms_eq (ds : List K) : epsTerms ds = (pairsOf ds).map (fun p => |p.1 - p.2|) := by
  unfold epsTerms
  apply List.map_congr_left
  intro p _
  rw [absOf_eq_abs, one_eq, mul_one]

theorem abs_terms_nonneg (ps : List (K × K)) : ∀ x ∈ ps.map (fun p => |p.1 - p.2|), 0 ≤ x := by
  intro x hx
  obtain ⟨p, -, rfl⟩ := List.mem_map.1 hx
  exact abs_nonneg _

theorem sum_abs_eq_zero_iff (ps : List (K × K)) :
    (ps.map (fun p => |p.1 - p.2|)).sum = 0 ↔ ∀ p ∈ ps, p.1 = p.2 := by
  constructor
  · intro h p hp
    have := List.all_zero_of_le_zero_le_of_sum_eq_zero (abs_terms_nonneg ps) h (List.mem_map.2 ⟨p, hp, rfl⟩)
    exact sub_eq_zero.1 (abs_eq_zero.1 this)
  · intro h
    refine List.sum_eq_zero fun x hx => ?_
    obtain ⟨p, hp, rfl⟩ := List.mem_map.1 hx
    rw [h p hp, sub_self, abs_zero]

/-- the pairs of a list all have equal components exactly when the list is constant (the first element
    is paired with every other one) -/
theorem pairsOf_all_eq_iff {β : Type} (l : List β) :
    (∀ p ∈ pairsOf l, p.1 = p.2) ↔ ∀ a ∈ l, ∀ b ∈ l, a = b := by
  constructor
  · intro h a ha b hb
    cases l with
    | nil => cases ha
    | cons x xs =>
      have hx : ∀ y ∈ x :: xs, y = x := fun y hy => (List.mem_cons.1 hy).elim id fun hy =>
        (h (x, y) (List.mem_append_left _ (List.mem_map.2 ⟨y, hy, rfl⟩))).symm
      rw [hx a ha, hx b hb]
  · exact fun h p hp => h _ (mem_pairsOf l p hp).1 _ (mem_pairsOf l p hp).2

variable [BEq K] [HasSqrt K] [HasLogExp K] [HasLog1p K] [HasTrunc K]

/-- ε₀ written with the field's operations: the sum of `|d_a − d_b|` over pairs of pairwise distances,
    divided by the number of subsets -/
theorem epsOfDistances_eq (k : Nat) (ds : List K) :
    epsOfDistances k ds = ((pairsOf ds).map (fun p => |p.1 - p.2|)).sum / (k : K) := by
  unfold epsOfDistances
  rw [sumF_eq, epsTerms_eq]

/-- ε₀ vanishes exactly when the pairwise distances all coincide — or `subsets = 0` (`x / 0 = 0`) -/
theorem epsOfDistances_eq_zero_iff (k : Nat) (ds : List K) :
    epsOfDistances k ds = 0 ↔ (∀ a ∈ ds, ∀ b ∈ ds, a = b) ∨ k = 0 := by
  rw [epsOfDistances_eq, div_eq_zero_iff, Nat.cast_eq_zero, sum_abs_eq_zero_iff, pairsOf_all_eq_iff]

/-- **ε₀ ≥ 0** (for every number of subsets, every data, every draws, every divergence) -/
theorem bootEps_nonneg (d : Divergence K) (bins dim : Nat) (rg : Nat → K × K) (k : Nat)
    (ref : List (List K)) (draws : List (List Nat)) :
    0 ≤ bootEps d bins dim rg k ref draws := by
  rw [bootEps, epsOfDistances_eq]
  exact div_nonneg (List.sum_nonneg (abs_terms_nonneg _)) (Nat.cast_nonneg k)

/-- **ε₀ = 0 exactly when all pairwise subset distances coincide** (`subsets ≠ 0`) -/
theorem bootEps_eq_zero_iff (d : Divergence K) (bins dim : Nat) (rg : Nat → K × K) (k : Nat) (hk : k ≠ 0)
    (ref : List (List K)) (draws : List (List Nat)) :
    bootEps d bins dim rg k ref draws = 0 ↔
      ∀ a ∈ bootDistances d (bootHists bins dim rg ref draws),
        ∀ b ∈ bootDistances d (bootHists bins dim rg ref draws), a = b :=
  (epsOfDistances_eq_zero_iff k _).trans (or_iff_left hk)

/-- **ε₀ = 0 when all subsets draw the same multiset of rows** (histograms are permutation
    invariant, so all subsets have the same histograms and all pairwise distances coincide —
    whatever the divergence, even one with `d(h, h) ≠ 0`) -/
theorem bootEps_eq_zero_of_perm (d : Divergence K) (bins dim : Nat) (rg : Nat → K × K) (k : Nat)
    (ref : List (List K)) (draws : List (List Nat)) (h : ∀ i ∈ draws, ∀ j ∈ draws, i.Perm j) :
    bootEps d bins dim rg k ref draws = 0 :=
  (epsOfDistances_eq_zero_iff k _).2 (.inl (bootDistances_const_of_perm d bins dim rg ref draws h))

/-- **at most two subsets drawn make the bootstrap vacuous**: ε₀ = 0 whatever the reference and the draws (with
    `updateB_threshold_is_bootEps`: on the second batch of such an epoch the threshold is 0 and any change of the
    distance is a drift) -/
theorem bootEps_two_subsets (d : Divergence K) (bins dim : Nat) (rg : Nat → K × K) (k : Nat)
    (ref : List (List K)) (draws : List (List Nat)) (h : draws.length ≤ 2) :
    bootEps d bins dim rg k ref draws = 0 := by
  rw [bootEps_few_subsets d bins dim rg k ref draws h, zero_eq, zero_div]

/-- **subset size**: with exact arithmetic and `int(·)` = floor, `size = ⌊(k−1)·n / k⌋` (integer division) -/
theorem bootSize_eq_div [FloorSemiring K] (htr : ∀ x : K, truncNat x = ⌊x⌋₊) (k n : Nat) (hk : k ≠ 0) :
    bootSize K k n = (k - 1) * n / k := by
  have hk1 : 1 ≤ k := Nat.one_le_iff_ne_zero.mpr hk
  have hkK : (k : K) ≠ 0 := Nat.cast_ne_zero.mpr hk
  have : ((one : K) - (one : K) / (k : K)) * (n : K) = (((k - 1) * n : Nat) : K) / (k : K) := by
    rw [one_eq, one_sub_div hkK, div_mul_eq_mul_div, Nat.cast_mul, Nat.cast_sub hk1, Nat.cast_one]
  rw [bootSize_def, htr, this, Nat.floor_div_eq_div]

/-- a subset is never larger than `reference_n` -/
theorem bootSize_le [FloorSemiring K] (htr : ∀ x : K, truncNat x = ⌊x⌋₊) (k n : Nat) (hk : k ≠ 0) :
    bootSize K k n ≤ n := by
  rw [bootSize_eq_div htr k n hk]
  apply Nat.div_le_of_le_mul
  exact Nat.mul_le_mul_right n (Nat.sub_le k 1)

/-- at least two subsets of a reference of at least two rows are non-empty
    (`subsets = 1` gives `size = 0`) -/
theorem bootSize_pos [FloorSemiring K] (htr : ∀ x : K, truncNat x = ⌊x⌋₊) (k n : Nat) (hk : 2 ≤ k) (hn : 2 ≤ n) :
    1 ≤ bootSize K k n := by
  rw [bootSize_eq_div htr k n (by omega)]
  apply (Nat.one_le_div_iff (by omega)).mpr
  calc k ≤ (k - 1) * 2 := by omega
    _ ≤ (k - 1) * n := Nat.mul_le_mul_left _ hn

theorem bootSize_one [FloorSemiring K] (htr : ∀ x : K, truncNat x = ⌊x⌋₊) (n : Nat) :
    bootSize K 1 n = 0 := by
  rw [bootSize_eq_div htr 1 n (by omega)]; simp

end field

namespace DemoBoot
local instance : HasSqrt Int := ⟨id⟩
local instance : HasLogExp Int := ⟨id, id⟩
local instance : HasLog1p Int := ⟨id⟩
local instance : HasTrunc Int := ⟨Int.toNat⟩

/-- the loop order of the pairs (`pairsOf_length`: 3 = 3·2/2) -/
example : pairsOf [1, 2, 3] = [(1, 2), (1, 3), (2, 3)] := rfl

/-- toy carrier `Int` (every theorem of the "every carrier" section applies to it); the user
    divergence is the signed difference of the first-bin counts (asymmetric, so the argument order
    `distance_function(bootstraps[i][f], bootstraps[j][f])`, `i < j`, is visible) -/
def dv : Divergence Int := .user (fun r t => ((r.headD 0 : Nat) : Int) - ((t.headD 0 : Nat) : Int))
def ref : List (List Int) := [[0], [4], [0], [4], [8], [8]]
def rg : Nat → Int × Int := fun _ => (0, 8)
def draws : List (List Nat) := [[0, 1, 2], [1, 1, 4], [0, 0, 0], [5, 4, 4]]

/-- four subsets of three rows: their histograms, the 6 pairwise distances, the 15 summands, and an
    estimate that is not 0 (`boot_counts`; `bootEps_nonneg` is not about a constant) -/
example : bootHists 2 1 rg ref draws = [[[2, 1]], [[0, 3]], [[3, 0]], [[0, 3]]] ∧
    bootDistances dv (bootHists 2 1 rg ref draws) = [2, -1, 2, -3, 0, 3] ∧
    (epsTerms (bootDistances dv (bootHists 2 1 rg ref draws))).length = 15 ∧
    bootEps dv 2 1 rg 4 ref draws = 10 := by decide

/-- hypothesis of `sampleRows_length` / the position part of `validDraws` -/
example : ∀ idx ∈ draws, ∀ i ∈ idx, i < ref.length := by decide

/-- hypothesis of `boot_reads_only_sampled_rows`: a different reference (row 3 changed, two rows
    appended) that agrees with `ref` at every drawn position -/
example : (∀ idx ∈ draws, ∀ i ∈ idx, ref[i]? = ([[0], [4], [0], [7], [8], [8], [1], [2]] : List (List Int))[i]?) ∧
    ref ≠ [[0], [4], [0], [7], [8], [8], [1], [2]] := by decide

/-- hypothesis of `bootEps_perm_within` -/
example : List.Forall₂ List.Perm [[0, 1, 2], [1, 1, 4]] [[2, 0, 1], [1, 4, 1]] :=
  .cons (by decide) (.cons (by decide) .nil)

/-- hypothesis of `bootDistances_const_of_perm` / `bootEps_eq_zero_of_perm`: three subsets drawing the
    same rows in different orders; and indeed the estimate vanishes -/
example : (∀ i ∈ [[0, 1, 4], [4, 0, 1], [1, 4, 0]], ∀ j ∈ [[0, 1, 4], [4, 0, 1], [1, 4, 0]], List.Perm i j) ∧
    bootEps dv 2 1 rg 3 ref [[0, 1, 4], [4, 0, 1], [1, 4, 0]] = 0 := by decide

/-- `bootEps_few_subsets`: two subsets, however different, give no ε-term -/
example : bootEps dv 2 1 rg 2 ref [[0, 0, 0], [4, 4, 4]] = 0 := by decide

def cfg : Cfg Int := { div := dv, detectBatch := 2, stat := .stdev, signif := 0 }
def ops : List (OpB Int) := [.setRef [[0], [4]] 0, .batch [[0], [4], [8], [8]] ⟨[], 0⟩]

/-- an accepted history in bootstrap form that reaches the bootstrap (`detect_batch = 2`, 4 subsets):
    hypotheses of `runB_eq_run`, `runB_some`, `runB_inv` -/
example : (runB cfg 4 init ops).map (fun s => (s.since, s.reference, s.bins, s.refN, s.drift)) =
    some (1, ref, 2, 6, .none) := by decide +kernel   -- (`Nat.sqrt` is by well-founded recursion)

/-- the next `update` is the epoch's second batch: it bootstraps, records `thresholds[2] = ε₀ = 10`
    (`updateB_threshold_is_bootEps`, here on the toy carrier) and, ε = 1 not exceeding it, no drift;
    with draws that all pick the same rows ε₀ = 0 < ε and the same batch is a drift
    (both directions of `updateB_drift_iff`) -/
example : ((runB cfg 4 init ops).bind (fun s => updateB cfg 4 ⟨draws, 0⟩ s [[0], [0], [0], [4]])).map
      (fun s => (s.since, s.thresholds, s.epsValues, s.drift)) =
    some (2, [(2, (10 : Int))], [(2, (1 : Int))], Drift.none) := by decide +kernel

example : ((runB cfg 4 init ops).bind (fun s => updateB cfg 4 ⟨[[0, 1, 4], [4, 0, 1], [1, 4, 0], [0, 4, 1]], 0⟩ s
      [[0], [0], [0], [4]])).map (fun s => (s.since, s.thresholds, s.epsValues, s.drift)) =
    some (2, [(2, (0 : Int))], [(2, (1 : Int))], Drift.drift) := by decide +kernel

/-- `subsets = 0`: the bootstrapping call is rejected in bootstrap form (`ZeroDivisionError`) while the
    oracle form, which never divides, accepts — the hypothesis `k ≠ 0` of `updateB_eq_update` /
    `runB_eq_run` cannot be dropped (and `updateB_some` is the half that survives) -/
example : ((runB cfg 0 init ops).bind (fun s => updateB cfg 0 ⟨[], 0⟩ s [[0], [0], [0], [4]])).isSome = false ∧
    ((runB cfg 0 init ops).bind (fun s => update cfg (oracleOf cfg 0 ⟨[], 0⟩ s [[0], [0], [0], [4]]) s
      [[0], [0], [0], [4]])).isSome = true := by decide

end DemoBoot

end MV.HDM
