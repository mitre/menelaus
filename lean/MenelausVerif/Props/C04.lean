/-
  C04 — CUSUM and Page-Hinkley apply their sequential tests to the current observations.

  Part 1 (every carrier, hence also the executed `Float` instance): lifecycle, no alarm during the
  burn-in, the decision is the threshold test, the step reads only the current epoch, fresh-twin
  theorems for whole histories (what one update does to counters, stream and decision is in
  `Lemmas/SeqSteps.lean`).
  Part 2 (ordered fields): the statistics are the declarative ones — CUSUM's one-sided sums are the
  maximal sums of the most recent standardised observations minus delta (max suffix sum, empty suffix
  included) with constants given / estimated from the first burn_in observations / re-estimated from
  the last burn_in observations before the epoch; Page-Hinkley's running mean is the arithmetic mean
  of the epoch, its sum / min / max the documented statistic and its extrema.
-/
import Mathlib.Data.List.Induction
import MenelausVerif.Lemmas.SeqSteps
import MenelausVerif.Lemmas.Carrier
set_option linter.unusedSectionVars false

namespace MV.Cusum
section anyCarrier
variable {α : Type} [Add α] [Sub α] [Mul α] [Div α] [LT α] [DecidableLT α] [NatCast α] [BEq α]
  [HasSqrt α]

/-- **No alarm during the burn-in**: whatever the state and the observation, an update that leaves
    `samples_since_reset ≤ burn_in` does not leave the detector in drift. -/
theorem no_alarm_in_burnin (c : Cfg α) (s : State α) (x : α)
    (h : (step c s x).1.since ≤ c.burnIn) : (step c s x).1.drift ≠ .drift :=
  fun hd => absurd (core_drift_past c _ x (prep_drift_ne c s) hd) (Nat.not_lt.2 h)

/-- what every reachable state satisfies, whatever the carrier: `_stream` holds every observation, the
    epoch is part of it, a detector in drift is past its burn-in (`past`), and an unknown target
    means the first epoch is still running (`first`) -/
structure WF (c : Cfg α) (s : State α) : Prop where
  len : s.hist.length = s.total
  le : s.since ≤ s.total
  past : s.drift = .drift → c.burnIn < s.since
  first : s.target = none → s.total = s.since

theorem init_wf (c : Cfg α) : WF c (init c) :=
  ⟨rfl, Nat.le_refl _, nofun, fun _ => rfl⟩

theorem prep_wf (c : Cfg α) (s : State α) (h : WF c s) : WF c (prep c s) := by
  by_cases hd : s.drift = .drift
  · rw [prep_of_drift c s hd]; exact ⟨h.len, Nat.zero_le _, nofun, nofun⟩
  · rw [prep_of_not_drift c s hd]; exact h

theorem core_wf (c : Cfg α) (s : State α) (x : α) (h : WF c s) (hd : s.drift ≠ .drift) :
    WF c (core c s x).1 := by
  obtain ⟨ht, hs, hh⟩ := core_counters c s x
  refine ⟨by rw [hh, ht, List.length_cons, h.len], by rw [hs, ht]; exact Nat.succ_le_succ h.le,
    core_drift_past c s x hd, fun hn => ?_⟩
  -- the target is unknown after the update: it was before
  rw [ht, hs, h.first (core_target_none c s x hn)]

theorem step_wf (c : Cfg α) (s : State α) (x : α) (h : WF c s) : WF c (step c s x).1 :=
  core_wf c _ x (prep_wf c s h) (prep_drift_ne c s)

theorem runFrom_wf (c : Cfg α) (xs : List α) (s s' : State α) (h : WF c s)
    (hr : runFrom c s xs = some s') : WF c s' :=
  runFrom_induction c (WF c) (fun s x h _ => step_wf c s x h) s h xs hr

/-- **Lifecycle of a whole history** (no update raised): `total_samples` is the number of updates,
    `_stream` is the history, `samples_since_reset ≤ total_samples`, a detector in drift is past its
    burn-in, and an unknown target means the detector is still in its first epoch. -/
theorem run_lifecycle (c : Cfg α) (xs : List α) (s : State α) (h : run c xs = some s) :
    s.total = xs.length ∧ s.hist = xs.reverse ∧ WF c s := by
  obtain ⟨h1, h2⟩ := runFrom_counters h
  exact ⟨h1.trans (Nat.zero_add _), h2.trans (List.append_nil _), runFrom_wf c xs (init c) s (init_wf c) h⟩

/-- Two detector states that agree on everything `update` can read: the per-epoch counter, the drift
    flag, the constants, the two statistics and the observations of the current epoch (of which, at the
    re-estimation after an alarm, the last `burn_in` are read).  `total_samples` and the older part
    of `_stream` are free.  The last four fields relate nothing: they say of each state what `WF`
    says (`le`, `le'` are carried along and used by no proof here). -/
structure EpochRel (b : Nat) (s s' : State α) : Prop where
  since : s.since = s'.since
  drift : s.drift = s'.drift
  target : s.target = s'.target
  sd : s.sd = s'.sd
  sh : s.sh = s'.sh
  sl : s.sl = s'.sl
  epoch : s.hist.take s.since = s'.hist.take s'.since
  le : s.since ≤ s.hist.length
  le' : s'.since ≤ s'.hist.length
  past : s.drift = .drift → b < s.since
  first : s.target = none → s.hist.length = s.since ∧ s'.hist.length = s'.since

theorem prep_epochRel (c : Cfg α) (hb : 1 ≤ c.burnIn) (s s' : State α)
    (h : EpochRel c.burnIn s s') : EpochRel c.burnIn (prep c s) (prep c s') := by
  by_cases hd : s.drift = .drift
  · rw [prep_of_drift c s hd, prep_of_drift c s' (h.drift ▸ hd),
      take_window hb (h.past hd) s.hist s'.hist (by rw [h.epoch, h.since])]
    exact ⟨rfl, rfl, rfl, rfl, rfl, rfl, rfl, Nat.zero_le _, Nat.zero_le _, nofun, nofun⟩
  · rw [prep_of_not_drift c s hd, prep_of_not_drift c s' (h.drift ▸ hd)]; exact h

theorem core_epoch_only (c : Cfg α) (s s' : State α) (x : α) (h : EpochRel c.burnIn s s')
    (hd : s.drift ≠ .drift) :
    (core c s x).2 = (core c s' x).2 ∧ EpochRel c.burnIn (core c s x).1 (core c s' x).1 := by
  -- `s` is `s'` with another counter and another stream ...
  have hs : s = { s' with total := s.total, hist := s.hist } := by
    obtain ⟨h1, h2, h3, h4, h5, h6, -⟩ := h
    cases s; cases s'; simp only at h1 h2 h3 h4 h5 h6; subst h1 h2 h3 h4 h5 h6; rfl
  -- ... which agree when the constants are estimated (the first epoch is the whole stream)
  have hH : estNow c s' = true → s.hist = s'.hist := by
    intro hest
    have hn := h.first (h.target ▸ ((estNow_iff c s').1 hest).1)
    have e := h.epoch
    rwa [← hn.1, ← hn.2, List.take_length, List.take_length] at e
  have hf := core_frame c s' x s.total s.hist hH
  rw [← hs] at hf
  obtain ⟨-, hsn, hh⟩ := core_counters c s' x
  rw [hf]
  refine ⟨rfl, ⟨rfl, rfl, rfl, rfl, rfl, rfl, ?_, ?_, ?_, core_drift_past c s' x (h.drift ▸ hd), fun hn => ?_⟩⟩
  · show (x :: s.hist).take (core c s' x).1.since = (core c s' x).1.hist.take (core c s' x).1.since
    rw [hsn, hh, List.take_succ_cons, List.take_succ_cons, ← h.since, h.epoch, h.since]
  · show (core c s' x).1.since ≤ (x :: s.hist).length
    rw [hsn, ← h.since]; exact Nat.succ_le_succ h.le
  · rw [hsn, hh]; exact Nat.succ_le_succ h.le'
  · have := h.first (h.target ▸ core_target_none c s' x hn)
    show (x :: s.hist).length = (core c s' x).1.since ∧ _
    rw [hsn, hh, List.length_cons, List.length_cons, this.1, this.2, h.since]
    exact ⟨rfl, rfl⟩

/-- **The step reads only the current epoch** (plus, at the re-estimation after an alarm, the last
    `burn_in` observations, which then belong to the epoch that just ended): two detectors that agree
    on the epoch state return the same way and agree on the epoch state afterwards — whatever their
    `total_samples` and their older history. -/
theorem step_epoch_only (c : Cfg α) (hb : 1 ≤ c.burnIn) (s s' : State α) (x : α)
    (h : EpochRel c.burnIn s s') :
    (step c s x).2 = (step c s' x).2 ∧ EpochRel c.burnIn (step c s x).1 (step c s' x).1 := by
  rw [step_eq, step_eq]
  exact core_epoch_only c _ _ x (prep_epochRel c hb s s' h) (prep_drift_ne c s)

/-- lifting of a relation to `Option` results: both raise or both return related states.  The same
    relation as `Twin.OptRel` of `Props/C02.lean`, which this file does not import (`Cusum.optRel_eq`
    in `Props/C02Models.lean` carries that one's lemmas over); inside `namespace MV.Cusum` the bare
    name `OptRel` is this one even where `MV.Twin` is open. -/
def OptRel (r : State α → State α → Prop) : Option (State α) → Option (State α) → Prop
  | some a, some b => r a b
  | none, none => True
  | _, _ => False

theorem runFrom_epoch_only (c : Cfg α) (hb : 1 ≤ c.burnIn) (xs : List α) (s s' : State α)
    (h : EpochRel c.burnIn s s') :
    OptRel (EpochRel c.burnIn) (runFrom c s xs) (runFrom c s' xs) := by
  induction xs generalizing s s' with
  | nil => exact h
  | cons x xs ih =>
    obtain ⟨ho, hr⟩ := step_epoch_only c hb s s' x h
    rw [runFrom_cons, runFrom_cons, ho]
    split
    · exact ih _ _ hr
    · trivial

/-- a detector with a pending drift continues like a fresh one constructed with the re-estimated
    constants (state form of `after_drift_fresh`) -/
theorem runFrom_of_drift (c : Cfg α) (hb : 1 ≤ c.burnIn) (s : State α) (hd : s.drift = .drift) (y : α)
    (ys : List α) :
    OptRel (EpochRel c.burnIn) (runFrom c s (y :: ys))
      (run { c with target0 := some (mean (window c.burnIn s.hist)),
                    sd0 := some (std (window c.burnIn s.hist)) } (y :: ys)) := by
  have hrel : EpochRel c.burnIn (prep c s)
      (init { c with target0 := some (mean (window c.burnIn s.hist)),
                     sd0 := some (std (window c.burnIn s.hist)) }) := by
    rw [prep_of_drift c s hd]
    exact ⟨rfl, rfl, rfl, rfl, rfl, rfl, rfl, Nat.zero_le _, Nat.zero_le _, nofun, nofun⟩
  have h1 := runFrom_epoch_only c hb (y :: ys) _ _ hrel
  rw [runFrom_cons, step_prep, ← runFrom_cons] at h1
  unfold run
  rw [runFrom_cfg_consts c (some _) (some _)]
  exact h1

/-- **Each decision depends on the current epoch only** (history form).  Once a history `xs` has ended
    in an alarm, the detector continues on any further observations `ys` exactly like a *fresh*
    detector that was given the mean / population standard deviation of the last `burn_in`
    observations of `xs` as its known constants: same outcome of every update, same
    `samples_since_reset`, drift state, `target`, `sd_hat` and statistics after every update.
    With `total_samples` shifted by `|xs|` and `_stream` extended by `xs`: `Cusum.twin_history`
    (`Props/C02Models.lean`). -/
theorem after_drift_fresh (c : Cfg α) (hb : 1 ≤ c.burnIn) (xs : List α) (s : State α)
    (h : run c xs = some s) (hd : s.drift = .drift) (y : α) (ys : List α) :
    OptRel (EpochRel c.burnIn) (run c (xs ++ y :: ys))
      (run { c with target0 := some (mean (window c.burnIn xs.reverse)),
                    sd0 := some (std (window c.burnIn xs.reverse)) } (y :: ys)) := by
  have := runFrom_of_drift c hb s hd y ys
  rw [(run_lifecycle c xs s h).2.1] at this
  rw [run_append, h]
  exact this

end anyCarrier

theorem alarm_iff {α : Type} [LT α] [DecidableLT α] (c : Cfg α) (sh sl : α) :
    alarm c sh sl = true ↔
      match c.dir with
      | .both => c.threshold < sh ∨ c.threshold < sl
      | .positive => c.threshold < sh
      | .negative => c.threshold < sl := by
  unfold alarm; cases c.dir <;> simp

section field
variable {K : Type} [Field K] [LinearOrder K] [IsStrictOrderedRing K] [HasSqrt K]

theorem zero_eq : (zero : K) = 0 := Nat.cast_zero

theorem sum_eq (xs : List K) : sum xs = xs.sum := by
  unfold sum; rw [foldl_add_eq_sum, zero_eq, zero_add]

/-- `np.mean`: the arithmetic mean -/
theorem mean_eq (xs : List K) : mean xs = xs.sum / (xs.length : K) := by
  unfold mean; rw [sum_eq]

/-- `np.std`: the square root of the mean squared deviation from the mean (population form) -/
theorem std_eq (xs : List K) :
    std xs = sqrt ((xs.map (fun x => (x - xs.sum / (xs.length : K)) ^ 2)).sum / (xs.length : K)) := by
  unfold std; simp only [mean_eq, List.length_map]
  congr 3
  apply List.map_congr_left; intro x _; ring

/-- `v` is the largest sum of the `k` most recent values, over all `k ≥ 0` (`ys` is newest first;
    in chronological terms: the maximal suffix sum, the empty suffix included) -/
def IsMaxRecent (ys : List K) (v : K) : Prop :=
  (∀ k, (ys.take k).sum ≤ v) ∧ ∃ k, (ys.take k).sum = v

theorem isMaxRecent_nil : IsMaxRecent ([] : List K) 0 :=
  ⟨fun k => by simp, ⟨0, by simp⟩⟩

/-- the CUSUM recurrence `s ← max(0, s + y)` maintains the maximal suffix sum -/
theorem isMaxRecent_cons {ys : List K} {v : K} (h : IsMaxRecent ys v) (y : K) :
    IsMaxRecent (y :: ys) (max 0 (v + y)) := by
  constructor
  · intro k
    cases k with
    | zero => exact le_max_left _ _
    | succ k =>
      rw [List.take_succ_cons, List.sum_cons, add_comm]
      exact le_trans (add_le_add_left (h.1 k) y) (le_max_right _ _)
  · obtain ⟨k, hk⟩ := h.2
    rcases le_total 0 (v + y) with hle | hle
    · exact ⟨k + 1, by rw [List.take_succ_cons, List.sum_cons, hk, max_eq_right hle, add_comm]⟩
    · exact ⟨0, (max_eq_left hle).symm⟩

theorem IsMaxRecent.unique {ys : List K} {v w : K} (h : IsMaxRecent ys v) (h' : IsMaxRecent ys w) :
    v = w := by
  obtain ⟨k, hk⟩ := h.2
  obtain ⟨k', hk'⟩ := h'.2
  exact le_antisymm (hk ▸ h'.1 k) (hk' ▸ h.1 k')

/-- contribution of one observation to the upper / lower statistic -/
def up (c : Cfg K) (t d x : K) : K := (x - t) / d - c.delta
def lo (c : Cfg K) (t d x : K) : K := -((x - t) / d) - c.delta

theorem upper_eq (c : Cfg K) (sh t d x : K) :
    upper c.delta sh ((x - t) / d) = max 0 (sh + up c t d x) := by
  unfold upper up; rw [pyMax_eq_max, zero_eq]; congr 1; ring

theorem lower_eq (c : Cfg K) (sl t d x : K) :
    lower c.delta sl ((x - t) / d) = max 0 (sl + lo c t d x) := by
  unfold lower lo; rw [pyMax_eq_max, zero_eq]; congr 1; ring

/-- number of observations at the start of the current epoch that did not enter the statistics:
    `burn_in - 1` in a first epoch whose constants had to be estimated, none otherwise -/
def skip (c : Cfg K) (s : State K) : Nat :=
  if c.target0.isNone = true ∧ s.total = s.since then c.burnIn - 1 else 0

/-- the observations of the current epoch that entered the statistics, newest first -/
def tested (c : Cfg K) (s : State K) : List K := s.hist.take (s.since - skip c s)

structure Inv (c : Cfg K) (s : State K) : Prop where
  wf : WF c s
  /-- first epoch, constants given to the constructor -/
  given : s.total = s.since → c.target0.isSome = true → s.target = c.target0 ∧ s.sd = c.sd0
  /-- first epoch, constants to be estimated, burn-in not completed: nothing computed yet -/
  notyet : s.total = s.since → c.target0 = none → s.since < c.burnIn →
    s.target = none ∧ s.sh = 0 ∧ s.sl = 0
  /-- first epoch, constants estimated from the first `burn_in` observations of the stream -/
  estimated : s.total = s.since → c.target0 = none → c.burnIn ≤ s.since →
    s.target = some (mean (s.hist.reverse.take c.burnIn)) ∧
    s.sd = some (std (s.hist.reverse.take c.burnIn))
  /-- later epochs: constants re-estimated from the last `burn_in` observations before the epoch -/
  reestimated : s.total ≠ s.since →
    s.target = some (mean (window c.burnIn (s.hist.drop s.since))) ∧
    s.sd = some (std (window c.burnIn (s.hist.drop s.since)))
  /-- the one-sided statistics are the maximal suffix sums of the standardised current observations
      (`d ≠ 0` is used by no proof: it keeps the clause from speaking about Lean's `(x − t) / 0 = 0`;
      with `sd_hat = 0` the code raises once past the burn-in) -/
  stats : ∀ t d, s.target = some t → s.sd = some d → d ≠ 0 →
    IsMaxRecent ((tested c s).map (up c t d)) s.sh ∧ IsMaxRecent ((tested c s).map (lo c t d)) s.sl
  /-- the decision is the threshold test, past the burn-in -/
  decision : s.drift = .drift ↔ s.since > c.burnIn ∧ alarm c s.sh s.sl = true

/-- an epoch none of whose observations has entered the statistics yet -/
theorem stats_fresh (c : Cfg K) (s : State K) (h : s.since ≤ skip c s) (hh : s.sh = 0) (hl : s.sl = 0)
    (f g : K → K) :
    IsMaxRecent ((tested c s).map f) s.sh ∧ IsMaxRecent ((tested c s).map g) s.sl := by
  unfold tested
  rw [Nat.sub_eq_zero_of_le h, List.take_zero, hh, hl]
  exact ⟨isMaxRecent_nil, isMaxRecent_nil⟩

/-- one more observation: `upper` / `lower` are the CUSUM recurrence on its standardised value -/
theorem stats_cons (c : Cfg K) (t d x : K) {ys : List K} {sh sl : K}
    (h : IsMaxRecent (ys.map (up c t d)) sh ∧ IsMaxRecent (ys.map (lo c t d)) sl) :
    IsMaxRecent ((x :: ys).map (up c t d)) (upper c.delta sh ((x - t) / d)) ∧
    IsMaxRecent ((x :: ys).map (lo c t d)) (lower c.delta sl ((x - t) / d)) := by
  rw [upper_eq, lower_eq, List.map_cons, List.map_cons]
  exact ⟨isMaxRecent_cons h.1 _, isMaxRecent_cons h.2 _⟩

theorem init_inv (c : Cfg K) (hb : 1 ≤ c.burnIn) : Inv c (init c) :=
  ⟨init_wf c, fun _ _ => ⟨rfl, rfl⟩, fun _ h _ => ⟨h, zero_eq, zero_eq⟩,
    fun _ _ h => absurd (Nat.le_trans hb h) (Nat.not_succ_le_zero 0), fun h => absurd rfl h,
    fun _ _ _ _ _ => stats_fresh c _ (Nat.zero_le _) zero_eq zero_eq _ _,
    nofun, fun h => absurd h.1 (Nat.not_lt_zero _)⟩

/-- the target is unknown exactly in a first epoch that has to estimate it and has not completed
    its burn-in -/
theorem Inv.target_none_iff {c : Cfg K} {s : State K} (h : Inv c s) :
    s.target = none ↔ s.total = s.since ∧ c.target0 = none ∧ s.since < c.burnIn := by
  refine ⟨fun hn => ?_, fun ⟨hf, h0, hlt⟩ => (h.notyet hf h0 hlt).1⟩
  have hf := h.wf.first hn
  cases h0 : c.target0 with
  | some t0 => have := (h.given hf (by rw [h0]; rfl)).1; rw [hn, h0] at this; cases this
  | none =>
    refine ⟨hf, rfl, Nat.lt_of_not_le fun hp => ?_⟩
    have := (h.estimated hf h0 hp).1; rw [hn] at this; cases this

theorem target_some_of_past (c : Cfg K) (s : State K) (h : Inv c s) (hp : c.burnIn ≤ s.since) :
    s.target.isSome = true :=
  Option.isSome_iff_ne_none.2 fun hn => absurd (h.target_none_iff.1 hn).2.2 (Nat.not_lt.2 hp)

/-- the re-estimation and reset at the start of the update after an alarm open an epoch that
    satisfies the invariant: no sample yet, constants from the last `burn_in` observations -/
theorem prep_inv (c : Cfg K) (s : State K) (h : Inv c s) : Inv c (prep c s) := by
  by_cases hd : s.drift = .drift
  swap
  · rw [prep_of_not_drift c s hd]; exact h
  have hne : s.total ≠ 0 := Nat.ne_of_gt (Nat.lt_of_lt_of_le (Nat.zero_lt_of_lt (h.wf.past hd)) h.wf.le)
  have hwf := prep_wf c s h.wf
  rw [prep_of_drift c s hd] at hwf ⊢
  exact ⟨hwf, fun e => absurd e hne, fun e => absurd e hne, fun e => absurd e hne, fun _ => ⟨rfl, rfl⟩,
    fun _ _ _ _ _ => stats_fresh c _ (Nat.zero_le _) zero_eq zero_eq _ _,
    nofun, fun e => absurd e.1 (Nat.not_lt_zero _)⟩

/-- the constants are estimated by exactly one update: the one that completes a first burn-in that
    started without them -/
theorem Inv.estNow_iff {c : Cfg K} {s : State K} (h : Inv c s) :
    estNow c s = true ↔ s.total = s.since ∧ c.target0 = none ∧ s.since + 1 = c.burnIn := by
  rw [Cusum.estNow_iff, h.target_none_iff]
  exact ⟨fun ⟨⟨hf, h0, _⟩, hb⟩ => ⟨hf, h0, hb⟩,
    fun ⟨hf, h0, hb⟩ => ⟨⟨hf, h0, hb ▸ Nat.lt_succ_self _⟩, hb⟩⟩

theorem core_inv (c : Cfg K) (s : State K) (x : K) (h : Inv c s) (hnd : s.drift ≠ .drift)
    (hok : (core c s x).2 = .ok) : Inv c (core c s x).1 := by
  obtain ⟨htot, hsn, hhist⟩ := core_counters c s x
  obtain ⟨htg, hsd⟩ := core_consts c s x
  rw [base_target] at htg; rw [base_sd] at hsd
  have hflag : (core c s x).1.total = (core c s x).1.since ↔ s.total = s.since := by
    rw [htot, hsn]; exact Nat.succ_inj
  refine ⟨core_wf c s x h.wf hnd, fun hf h0 => ?_, fun hf h0 hlt => ?_, fun hf h0 hge => ?_, fun hne => ?_,
    fun t d ht hd hd0 => ?_, ?_⟩
  · have hne : ¬ estNow c s = true := fun he => by rw [(h.estNow_iff.1 he).2.1] at h0; cases h0
    rw [htg, hsd, if_neg hne, if_neg hne]; exact h.given (hflag.1 hf) h0
  · rw [hsn] at hlt
    have hn : (core c s x).1.target = none := by
      rw [htg, if_neg fun he => Nat.ne_of_lt hlt (h.estNow_iff.1 he).2.2]
      exact (h.notyet (hflag.1 hf) h0 (Nat.lt_of_succ_lt hlt)).1
    rcases core_cases c s x with ⟨heq, hb⟩ | ⟨t, _, ht, -⟩
    · rw [heq, base_sh, base_sl, (hb hok).2]; exact ⟨(hb hok).1, zero_eq, zero_eq⟩
    · rw [(core_consts c s x).1, ht] at hn; cases hn
  · rw [hsn] at hge
    rw [htg, hsd, hhist]
    by_cases he : estNow c s = true
    · rw [if_pos he, if_pos he, List.take_of_length_le]
      · exact ⟨rfl, rfl⟩
      · rw [List.length_reverse, List.length_cons, h.wf.len, (h.estNow_iff.1 he).1, (h.estNow_iff.1 he).2.2]
    · have hge' : c.burnIn ≤ s.since :=
        Nat.le_of_lt_succ (Nat.lt_of_le_of_ne hge fun hb => he (h.estNow_iff.2 ⟨hflag.1 hf, h0, hb.symm⟩))
      rw [if_neg he, if_neg he, List.reverse_cons, List.take_append_of_le_length
        (by rw [List.length_reverse, h.wf.len, hflag.1 hf]; exact hge')]
      exact h.estimated (hflag.1 hf) h0 hge'
  · have hne' : s.total ≠ s.since := fun hh => hne (hflag.2 hh)
    have he : ¬ estNow c s = true := fun he => hne' (h.estNow_iff.1 he).1
    rw [htg, hsd, if_neg he, if_neg he, hhist, hsn, List.drop_succ_cons]
    exact h.reestimated hne'
  · -- the new sample joins the tested ones, of which there were none if the constants are new
    rw [(core_consts c s x).1] at ht; rw [(core_consts c s x).2] at hd
    rcases core_cases c s x with ⟨-, hb⟩ | ⟨t', d', ht', hd', hearly, heq⟩
    · rw [(hb hok).1] at ht; cases ht
    rw [ht'] at ht; rw [hd'] at hd; cases ht; cases hd
    have hprev : IsMaxRecent ((tested c s).map (up c t d)) s.sh ∧
        IsMaxRecent ((tested c s).map (lo c t d)) s.sl := by
      by_cases he : estNow c s = true
      · obtain ⟨hf, h0, hb⟩ := h.estNow_iff.1 he
        have hny := h.notyet hf h0 (hb ▸ Nat.lt_succ_self _)
        refine stats_fresh c s ?_ hny.2.1 hny.2.2 _ _
        unfold skip
        rw [if_pos ⟨by rw [h0]; rfl, hf⟩, ← hb]
        exact Nat.le_refl _
      · rw [base_target, if_neg he] at ht'; rw [base_sd, if_neg he] at hd'
        exact h.stats t d ht' hd' hd0
    have hskip : skip c s ≤ s.since := by
      unfold skip
      split
      · rename_i hh
        refine Nat.le_of_not_lt fun hlt => ?_
        have hlt' : s.since + 1 < c.burnIn := Nat.add_lt_of_lt_sub hlt
        have hn := (h.notyet hh.2 (Option.isNone_iff_eq_none.1 hh.1) (Nat.lt_of_succ_lt hlt')).1
        rw [(early_iff c s).2 ⟨hn, hlt'⟩] at hearly; cases hearly
      · exact Nat.zero_le _
    have htested : tested c (core c s x).1 = x :: tested c s := by
      have hsk : skip c (core c s x).1 = skip c s := by unfold skip; simp only [hflag]
      unfold tested; rw [hsk, hsn, hhist, Nat.succ_sub hskip, List.take_succ_cons]
    rw [htested, heq, advance_eq, base_sh, base_sl, hearly]
    exact stats_cons c t d x hprev
  · rcases core_cases c s x with ⟨heq, hb⟩ | ⟨t, d, -, -, -, heq⟩
    · rw [heq]
      exact iff_of_false hnd fun h1 =>
        absurd h1.1 (Nat.not_lt.2 (Nat.le_of_lt ((early_iff c s).1 (hb hok).2).2))
    · rw [heq]; exact advance_drift c _ x t d hnd

/-- the invariant is preserved by every update that returns normally, whatever the burn-in (only
    `init_inv` needs `1 ≤ burn_in`, for its clause about a completed first burn-in) -/
theorem Inv.step {c : Cfg K} {s : State K} (h : Inv c s) (x : K) (hok : (step c s x).2 = .ok) :
    Inv c (step c s x).1 :=
  core_inv c _ x (prep_inv c s h) (prep_drift_ne c s) hok

theorem step_inv (c : Cfg K) (hb : 1 ≤ c.burnIn) (s : State K) (x : K) (h : Inv c s)
    (hok : (step c s x).2 = .ok) : Inv c (step c s x).1 :=
  h.step x hok

theorem runFrom_inv (c : Cfg K) (xs : List K) (s s' : State K) (h : Inv c s)
    (hr : runFrom c s xs = some s') : Inv c s' :=
  runFrom_induction c (Inv c) (fun _ x h hok => h.step x hok) s h xs hr

/-- **CUSUM applies the cumulative-sum test to the standardised current observations.**
    After any history `xs` of updates none of which raised, with `n = samples_since_reset`:
    * `total_samples = |xs|`, `n ≤ |xs|`;
    * the constants are the ones given to the constructor, or — first epoch, none given — unknown
      while `n < burn_in` and afterwards the mean / population standard deviation of the first
      `burn_in` observations, or — after an alarm — those of the `burn_in` observations that
      immediately precede the current epoch;
    * for constants `t`, `d ≠ 0`, `s_h` (`s_l`) is the maximum over `k ≥ 0` of the sum of the `k` most
      recent values of `(x − t)/d − δ` (resp. `−(x − t)/d − δ`) — the maximal suffix sum, empty suffix
      included — over the observations of the current epoch (in an estimating first epoch: from the
      `burn_in`-th observation on);
    * the detector is in drift iff `n > burn_in` and the threshold test in the configured direction
      holds for these statistics. -/
theorem cusum_spec (c : Cfg K) (hb : 1 ≤ c.burnIn) (xs : List K) (s : State K)
    (h : run c xs = some s) :
    s.total = xs.length ∧ s.since ≤ xs.length ∧
    (s.total = s.since → c.target0.isSome = true → s.target = c.target0 ∧ s.sd = c.sd0) ∧
    (s.total = s.since → c.target0 = none → s.since < c.burnIn → s.target = none) ∧
    (s.total = s.since → c.target0 = none → c.burnIn ≤ s.since →
      s.target = some (mean (xs.take c.burnIn)) ∧ s.sd = some (std (xs.take c.burnIn))) ∧
    (s.total ≠ s.since →
      s.target = some (mean (window c.burnIn (xs.reverse.drop s.since))) ∧
      s.sd = some (std (window c.burnIn (xs.reverse.drop s.since)))) ∧
    (∀ t d, s.target = some t → s.sd = some d → d ≠ 0 →
      IsMaxRecent ((xs.reverse.take (s.since - skip c s)).map (up c t d)) s.sh ∧
      IsMaxRecent ((xs.reverse.take (s.since - skip c s)).map (lo c t d)) s.sl) ∧
    (s.drift = .drift ↔ s.since > c.burnIn ∧
      match c.dir with
      | .both => c.threshold < s.sh ∨ c.threshold < s.sl
      | .positive => c.threshold < s.sh
      | .negative => c.threshold < s.sl) := by
  obtain ⟨htot, hhist, hwf⟩ := run_lifecycle c xs s h
  have hi := runFrom_inv c xs (init c) s (init_inv c hb) h
  refine ⟨htot, by rw [← htot]; exact hwf.le, hi.given, fun a b d => (hi.notyet a b d).1, ?_, ?_, ?_, ?_⟩
  · intro a b d
    have := hi.estimated a b d
    rwa [hhist, List.reverse_reverse] at this
  · intro a
    have := hi.reestimated a
    rwa [hhist] at this
  · intro t d ht hd hd0
    have := hi.stats t d ht hd hd0
    unfold tested at this
    rwa [hhist] at this
  · rw [hi.decision, alarm_iff]

/-- the statistics clause of `cusum_spec` on its own -/
theorem cusum_suffix (c : Cfg K) (hb : 1 ≤ c.burnIn) (xs : List K) (s : State K)
    (h : run c xs = some s) (t d : K) (ht : s.target = some t) (hd : s.sd = some d) (hd0 : d ≠ 0) :
    IsMaxRecent ((xs.reverse.take (s.since - skip c s)).map (up c t d)) s.sh ∧
    IsMaxRecent ((xs.reverse.take (s.since - skip c s)).map (lo c t d)) s.sl :=
  (cusum_spec c hb xs s h).2.2.2.2.2.2.1 t d ht hd hd0

/-- corollary: the maximal suffix sums are determined by the observations — any two histories
    whose current epochs (the part that entered the statistics) and constants coincide carry the
    same statistics -/
theorem cusum_suffix_unique (c : Cfg K) (hb : 1 ≤ c.burnIn) (xs ys : List K) (s s' : State K)
    (h : run c xs = some s) (h' : run c ys = some s') (t d : K) (hd0 : d ≠ 0)
    (ht : s.target = some t) (hd : s.sd = some d) (ht' : s'.target = some t) (hd' : s'.sd = some d)
    (he : xs.reverse.take (s.since - skip c s) = ys.reverse.take (s'.since - skip c s')) :
    s.sh = s'.sh ∧ s.sl = s'.sl := by
  have a := cusum_suffix c hb xs s h t d ht hd hd0
  have b := cusum_suffix c hb ys s' h' t d ht' hd' hd0
  rw [he] at a
  exact ⟨a.1.unique b.1, a.2.unique b.2⟩

/-- where the standardisation constants come from: the clauses of `cusum_spec` about an estimating
    first epoch and about later epochs, with `mean` written out (`sd_hat` stays the model's `std`, which
    `std_eq` writes out) -/
theorem cusum_estimates (c : Cfg K) (hb : 1 ≤ c.burnIn) (xs : List K) (s : State K)
    (h : run c xs = some s) :
    (s.total = s.since → c.target0 = none → c.burnIn ≤ s.since →
      s.target = some ((xs.take c.burnIn).sum / ((xs.take c.burnIn).length : K)) ∧
      s.sd = some (std (xs.take c.burnIn))) ∧
    (s.total ≠ s.since →
      s.target = some ((window c.burnIn (xs.reverse.drop s.since)).sum /
        ((window c.burnIn (xs.reverse.drop s.since)).length : K)) ∧
      s.sd = some (std (window c.burnIn (xs.reverse.drop s.since)))) := by
  have := cusum_spec c hb xs s h
  refine ⟨fun a b d => ?_, fun a => ?_⟩
  · have := this.2.2.2.2.1 a b d; rwa [mean_eq] at this
  · have := this.2.2.2.2.2.1 a; rwa [mean_eq] at this

/-- the estimation window after an alarm is the `burn_in` observations that end the previous epoch,
    in chronological order -/
theorem window_eq (b : Nat) (hb : 1 ≤ b) (l : List K) : window b l = (l.take b).reverse := by
  unfold window; rw [if_neg (Nat.ne_of_gt hb)]

end field

section examples
/-- the theorems hold for any `sqrt`; the examples use a stand-in on `ℚ` -/
local instance : HasSqrt ℚ := ⟨fun x => x⟩

/-- instance search gives up on the six-component tuple below unless it finds this half ready -/
local instance : DecidableEq (Option ℚ × Option ℚ × ℚ) := inferInstance

/-- known constants `target = 0`, `sd_hat = 1` -/
def exKnown : Cfg ℚ :=
  { target0 := some 0, sd0 := some 1, burnIn := 2, delta := 0, threshold := 1, dir := .both }
/-- constants to be estimated -/
def exEst : Cfg ℚ :=
  { target0 := none, sd0 := none, burnIn := 2, delta := 0, threshold := 1, dir := .positive }

/-- an alarm at the first update past the burn-in (`no_alarm_in_burnin` is tight) -/
example : (run exKnown [0, 0, 3]).map (fun s => (s.drift, s.total, s.since, s.sh)) =
    some (.drift, 3, 3, 3) := by
  decide +kernel

/-- a second epoch is reached (`total ≠ since`): constants re-estimated from the last two observations -/
example : (run exKnown [0, 0, 3, 4]).map (fun s => (s.drift, s.total, s.since, s.target, s.sd, s.sh)) =
    some (.none, 4, 1, some (3 / 2), some (9 / 4), 10 / 9) := by
  decide +kernel

/-- estimated constants: nothing before the burn-in completes, an alarm afterwards -/
example : (run exEst [1, 3]).map (fun s => (s.drift, s.since, s.target, s.sd, s.sh)) =
    some (.none, 2, some 2, some 1, 1) := by
  decide +kernel
example : (run exEst [1, 3, 5]).map (fun s => (s.drift, s.since, s.sh)) = some (.drift, 3, 4) := by
  decide +kernel

/-- a constant burn-in window: `sd_hat = 0`, the first update past the burn-in raises -/
example : run exEst [1, 1] ≠ none ∧ run exEst [1, 1, 1] = none := by
  decide +kernel

/-- `step_epoch_only` / `EpochRel`: two detectors with different pasts (5 updates vs 1) and the same
    current epoch -/
example : EpochRel 2
    ({ total := 5, since := 1, drift := .none, target := some 0, sd := some 1, sh := 0, sl := 0,
       hist := [7, 1, 2, 3, 4] } : State ℚ)
    { total := 1, since := 1, drift := .none, target := some 0, sd := some 1, sh := 0, sl := 0,
      hist := [7] } := by
  constructor <;> simp

/-- `after_drift_fresh` has a satisfiable hypothesis: this history ends in an alarm -/
example : ∃ s, run exKnown [0, 0, 3] = some s ∧ s.drift = .drift :=
  ⟨_, rfl, by decide +kernel⟩

end examples
end MV.Cusum

namespace MV.PH
section anyCarrier
variable {α : Type} [Add α] [Sub α] [Mul α] [Div α] [LT α] [DecidableLT α] [NatCast α]

/-- the row's test: `drift_detected = (theta < ph_difference)` with `theta = threshold * mean` and the
    difference taken in the configured direction -/
theorem step_row (c : Cfg α) (s : State α) (x : α) :
    let r := (step c s x).2
    let s' := (step c s x).1
    r.x = x ∧ r.mean = s'.mean ∧ r.sum = s'.sum ∧ r.mn = s'.mn ∧ r.mx = s'.mx ∧
    r.theta = c.threshold * s'.mean ∧
    r.diff = (match c.dir with | .positive => s'.sum - s'.mn | .negative => s'.mx - s'.sum) ∧
    r.check = decide (r.theta < r.diff) := by
  intro r s'
  exact ⟨rfl, rfl, rfl, rfl, rfl, rfl, rfl, rfl⟩

theorem no_alarm_in_burnin (c : Cfg α) (s : State α) (x : α)
    (h : (step c s x).1.since ≤ c.burnIn) : (step c s x).1.drift ≠ .drift :=
  fun hd => absurd ((step_decision c s x).1 hd).1 (Nat.not_lt.2 h)

/-- agreement on everything but `total_samples` -/
def SameEpoch (s s' : State α) : Prop :=
  s.since = s'.since ∧ s.drift = s'.drift ∧ s.mean = s'.mean ∧ s.sum = s'.sum ∧ s.mn = s'.mn ∧
    s.mx = s'.mx

theorem SameEpoch.eq {s s' : State α} (h : SameEpoch s s') : s = { s' with total := s.total } := by
  obtain ⟨h1, h2, h3, h4, h5, h6⟩ := h
  cases s; cases s'; simp only at h1 h2 h3 h4 h5 h6; subst h1 h2 h3 h4 h5 h6; rfl

/-- **The step reads only the epoch state and the supplied observation**: same row, same next epoch
    state, whatever the two detectors' `total_samples`. -/
theorem step_epoch_only (c : Cfg α) (s s' : State α) (x : α) (h : SameEpoch s s') :
    (step c s x).2 = (step c s' x).2 ∧ SameEpoch (step c s x).1 (step c s' x).1 := by
  rw [h.eq, step_frame]
  exact ⟨rfl, rfl, rfl, rfl, rfl, rfl, rfl⟩

/-- the rows appended by a sequence of updates -/
def rowsFrom (c : Cfg α) (s : State α) : List α → List (Row α)
  | [] => []
  | x :: xs => (step c s x).2 :: rowsFrom c (step c s x).1 xs

theorem runFrom_epoch_only (c : Cfg α) (xs : List α) (s s' : State α) (h : SameEpoch s s') :
    rowsFrom c s xs = rowsFrom c s' xs ∧ SameEpoch (runFrom c s xs) (runFrom c s' xs) := by
  induction xs generalizing s s' with
  | nil => exact ⟨rfl, h⟩
  | cons x xs ih =>
    obtain ⟨hr, hs⟩ := step_epoch_only c s s' x h
    obtain ⟨ih1, ih2⟩ := ih _ _ hs
    exact ⟨by show _ :: _ = _ :: _; rw [hr, ih1], ih2⟩

/-- **Each decision depends on the current epoch only** (history form).  Once a history `xs` has
    ended in an alarm, the detector continues on any further observations exactly like a fresh
    detector: the same `to_dataframe()` rows and the same epoch state after every update.  With
    `total_samples` shifted by `|xs|`: `PH.twin_history` (`Props/C02Models.lean`). -/
theorem after_drift_fresh (c : Cfg α) (xs : List α) (hd : (run c xs).drift = .drift) (y : α)
    (ys : List α) :
    rowsFrom c (run c xs) (y :: ys) = rowsFrom c init (y :: ys) ∧
    SameEpoch (run c (xs ++ y :: ys)) (run c (y :: ys)) := by
  have h1 := step_of_drift c _ y hd
  obtain ⟨hr, hs⟩ := runFrom_epoch_only c ys (step c (run c xs) y).1 (step c init y).1
    (by rw [h1]; exact ⟨rfl, rfl, rfl, rfl, rfl, rfl⟩)
  have e1 : run c (xs ++ y :: ys) = runFrom c (step c (run c xs) y).1 ys :=
    runFrom_append c init xs (y :: ys)
  exact ⟨by simp only [rowsFrom]; rw [hr, h1], e1 ▸ hs⟩

/-- after any history the drift state is the documented test on the detector's own statistics -/
theorem run_decision (c : Cfg α) (xs : List α) :
    (run c xs).drift = .drift ↔ (run c xs).since > c.burnIn ∧
      c.threshold * (run c xs).mean <
        (match c.dir with
          | .positive => (run c xs).sum - (run c xs).mn
          | .negative => (run c xs).mx - (run c xs).sum) := by
  rcases List.eq_nil_or_concat xs with rfl | ⟨ys, x, rfl⟩
  · exact ⟨nofun, fun h => absurd h.1 (Nat.not_lt_zero _)⟩
  · obtain ⟨-, -, -, -, -, hth, hdiff, hchk⟩ := step_row c (run c ys) x
    rw [List.concat_eq_append, run_snoc, step_decision, hchk, decide_eq_true_iff, hth, hdiff]

end anyCarrier

section field
variable {K : Type} [Field K] [LinearOrder K] [IsStrictOrderedRing K]

/-- arithmetic mean of a list (`0` for the empty list, as `PageHinkley.reset` sets `_mean = 0`) -/
def meanR (E : List K) : K := E.sum / (E.length : K)

/-- the Page-Hinkley statistic `m_T = Σ_{t ≤ T} (x_t − x̄_t − δ)`, `x̄_t` the mean of the first `t`
    observations; the list is the epoch newest-first, so its tails are the epoch's time prefixes -/
def cumR (δ : K) : List K → K
  | [] => 0
  | x :: E => cumR δ E + (x - meanR (x :: E) - δ)

/-- `min(0, m_1, …, m_T)` -/
def minR (δ : K) : List K → K
  | [] => 0
  | x :: E => min (minR δ E) (cumR δ (x :: E))

/-- `max(0, m_1, …, m_T)` -/
def maxR (δ : K) : List K → K
  | [] => 0
  | x :: E => max (maxR δ E) (cumR δ (x :: E))

/-- `minR` is the least of the statistics of all time prefixes (the empty one, with `m_0 = 0`, included) -/
theorem minR_le (δ : K) (E U : List K) (h : U <:+ E) : minR δ E ≤ cumR δ U := by
  induction E with
  | nil => rw [List.suffix_nil] at h; subst h; simp [minR, cumR]
  | cons x E ih =>
    rcases List.suffix_cons_iff.1 h with h | h
    · subst h; exact min_le_right _ _
    · exact le_trans (min_le_left _ _) (ih h)

theorem minR_attained (δ : K) (E : List K) : ∃ U, U <:+ E ∧ minR δ E = cumR δ U := by
  induction E with
  | nil => exact ⟨[], List.suffix_refl _, rfl⟩
  | cons x E ih =>
    obtain ⟨U, hU, hm⟩ := ih
    rcases le_total (minR δ E) (cumR δ (x :: E)) with hle | hle
    · exact ⟨U, List.suffix_cons_iff.2 (Or.inr hU), by rw [minR, min_eq_left hle, hm]⟩
    · exact ⟨x :: E, List.suffix_refl _, by rw [minR, min_eq_right hle]⟩

theorem le_maxR (δ : K) (E U : List K) (h : U <:+ E) : cumR δ U ≤ maxR δ E := by
  induction E with
  | nil => rw [List.suffix_nil] at h; subst h; simp [maxR, cumR]
  | cons x E ih =>
    rcases List.suffix_cons_iff.1 h with h | h
    · subst h; exact le_max_right _ _
    · exact le_trans (ih h) (le_max_left _ _)

theorem maxR_attained (δ : K) (E : List K) : ∃ U, U <:+ E ∧ maxR δ E = cumR δ U := by
  induction E with
  | nil => exact ⟨[], List.suffix_refl _, rfl⟩
  | cons x E ih =>
    obtain ⟨U, hU, hm⟩ := ih
    rcases le_total (cumR δ (x :: E)) (maxR δ E) with hle | hle
    · exact ⟨U, List.suffix_cons_iff.2 (Or.inr hU), by rw [maxR, max_eq_left hle, hm]⟩
    · exact ⟨x :: E, List.suffix_refl _, by rw [maxR, max_eq_right hle]⟩

/-- the incremental mean update is the arithmetic mean -/
theorem mean_step (n : ℕ) (S x : K) (h : n = 0 → S = 0) :
    S / (n : K) + (x - S / (n : K)) / ((n + 1 : ℕ) : K) = (x + S) / ((n + 1 : ℕ) : K) := by
  rw [eq_div_iff (Nat.cast_ne_zero.2 n.succ_ne_zero), runMean_mul, add_comm,
    div_mul_cancel_of_imp fun hn => h (Nat.cast_eq_zero.1 hn)]

/-- the epoch state holds the statistics of the epoch `E` (newest first) -/
structure Stat (c : Cfg K) (s : State K) (E : List K) : Prop where
  since : s.since = E.length
  mean : s.mean = meanR E
  sum : s.sum = cumR c.delta E
  mn : s.mn = minR c.delta E
  mx : s.mx = maxR c.delta E

theorem reset_stat (c : Cfg K) (s : State K) : Stat c (reset s) [] := by
  constructor <;> simp [reset, zero, meanR, cumR, minR, maxR]

theorem core_stat (c : Cfg K) (s : State K) (E : List K) (x : K) (h : Stat c s E) :
    Stat c (core c s x).1 (x :: E) := by
  obtain ⟨hm, hs, hmn, hmx⟩ := core_stats c s x
  have hmean : (core c s x).1.mean = meanR (x :: E) := by
    rw [hm, h.mean, h.since]
    unfold meanR
    rw [mean_step E.length E.sum x fun h0 => by rw [List.length_eq_zero_iff.1 h0, List.sum_nil],
      List.sum_cons, List.length_cons]
  have hsum : (core c s x).1.sum = cumR c.delta (x :: E) := by
    rw [hs, hmean, h.sum]; simp only [cumR]; ring
  refine ⟨by rw [core_eq, h.since]; rfl, hmean, hsum, ?_, ?_⟩
  · rw [hmn, pyMin_eq_min, hsum, h.mn]; rfl
  · rw [hmx, pyMax_eq_max, hsum, h.mx]; rfl

/-- after any history the state holds the statistics of the current epoch: the
    `samples_since_reset` most recent observations -/
theorem run_stat (c : Cfg K) (xs : List K) :
    (run c xs).since ≤ xs.length ∧ Stat c (run c xs) (xs.reverse.take (run c xs).since) := by
  induction xs using List.reverseRecOn with
  | nil => exact ⟨Nat.le_refl _, reset_stat c init⟩
  | append_singleton xs x ih =>
    rw [run_snoc, step_since, step_eq, pre, List.reverse_append, List.length_append]
    by_cases hd : (run c xs).drift = .drift
    · rw [if_pos hd, if_pos hd]
      exact ⟨Nat.le_add_left 1 _, core_stat c _ _ x (reset_stat c _)⟩
    · rw [if_neg hd, if_neg hd]
      exact ⟨Nat.succ_le_succ ih.1, core_stat c _ _ x ih.2⟩

/-- **Page-Hinkley computes the documented statistics of the current epoch.**  After any history
    `xs`, with `E` the observations since the last reset (the `samples_since_reset` most recent
    ones, newest first): the running mean is the arithmetic mean of `E`; `_sum` is
    `Σ_t (x_t − x̄_t − δ)` over the epoch; `_min` / `_max` are the extrema of that statistic over
    all time prefixes of the epoch and `0`; and the detector is in drift iff it is past its burn-in
    and `ph_difference > threshold * mean` in the configured direction. -/
theorem ph_spec (c : Cfg K) (xs : List K) (s : State K) (E : List K)
    (hrun : s = run c xs) (hE : E = xs.reverse.take s.since) :
    s.total = xs.length ∧ s.since ≤ xs.length ∧
    s.mean = meanR E ∧ s.sum = cumR c.delta E ∧ s.mn = minR c.delta E ∧ s.mx = maxR c.delta E ∧
    (s.drift = .drift ↔ s.since > c.burnIn ∧
      c.threshold * meanR E <
        (match c.dir with
          | .positive => cumR c.delta E - minR c.delta E
          | .negative => maxR c.delta E - cumR c.delta E)) := by
  subst hrun hE
  obtain ⟨hle, hs⟩ := run_stat c xs
  refine ⟨run_total c xs, hle, hs.mean, hs.sum, hs.mn, hs.mx, ?_⟩
  rw [← hs.mean, ← hs.sum, ← hs.mn, ← hs.mx]
  exact run_decision c xs

/-- the running mean is the arithmetic mean of the current epoch -/
theorem ph_mean (c : Cfg K) (xs : List K) :
    (run c xs).mean = (xs.reverse.take (run c xs).since).sum /
      ((xs.reverse.take (run c xs).since).length : K) :=
  (ph_spec c xs _ _ rfl rfl).2.2.1

end field

def exCfg : Cfg ℚ := { delta := 0, threshold := 0, burnIn := 1, dir := .positive }

/-- an alarm at the second update (`burn_in = 1`); the update after it opens an epoch of its own -/
example : ((run exCfg [0, 2]).drift, (run exCfg [0, 2]).mean, (run exCfg [0, 2]).sum) = (.drift, 1, 1) := by
  decide +kernel
example : ((run exCfg [0, 2, 5]).total, (run exCfg [0, 2, 5]).since, (run exCfg [0, 2, 5]).mean) = (3, 1, 5) := by
  decide +kernel
end MV.PH
