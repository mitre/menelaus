/-
  C17 for Linear Four Rates, non-vacuity (`Props/C17LFR.lean`): a run over `ℚ` with `floorNat = ⌊·⌋₊` on which
  the smaller `detect_level` alarms strictly later and the smaller `warning_level` warns strictly less often,
  with the two caches holding the same keys and nested bounds.
-/
import MenelausVerif.Props.C17LFR
import Mathlib.Data.Rat.Floor

namespace MV.C17.LFR
open MV MV.Mono MV.LFR

/-! Carrier `ℚ`, `floorNat = ⌊·⌋₊`, `rint = id` (exact cache keys), `eta = 1/2`, TPR
    tracked, no burn-in; every update is offered one block of five 8-bit draw vectors (consumed only
    when the rate's key is new).  Stream: one hit, then misses: the TPR statistic falls
    3/4, 3/8, 3/16, 3/32, 3/64; then (after the reset) the same again, now served from the cache. -/
namespace Examples
local instance exRound : HasRound ℚ := ⟨fun x => ⌊x⌋₊, id⟩

theorem exFloor : FloorLaw ℚ := floorLaw_natFloor id

def cfg (w d : ℚ) : Cfg ℚ :=
  { eta := 1 / 2, warnLevel := w, detectLevel := d, burnIn := 0, numMc := 5, subsample := 1,
    tracked := [.tpr], roundVal := 2 }
def blk : Block :=
  [[true, true, true, true, true, true, true, true], [false, false, false, false, false, false, false, false],
   [true, false, true, false, true, false, true, false], [false, true, false, true, false, true, false, true],
   [true, true, false, false, true, true, false, false]]
def op (yt yp : Bool) : Op := ⟨yt, yp, [blk]⟩
def ops : List Op :=
  [op true true, op true false, op true false, op true false, op true false, op true true, op true false]
def fd (c : Cfg ℚ) (l : List Op) : Option Nat := firstIdx (driftTrace (stepOp c) (fun s => isD s.drift) init l)

/-- `detect_level = 1/10` alarms on the fourth sample, `1/20` only on the fifth, `0` never here -/
example : fd (cfg (1 / 4) (1 / 10)) ops = some 3 ∧ fd (cfg (1 / 4) (1 / 20)) ops = some 4 ∧
    fd (cfg (1 / 4) 0) ops = none := by decide +kernel
example (l : List Op) : NoLater (fd { cfg (1 / 4) 0 with detectLevel := 1 / 10 } l)
    (fd { cfg (1 / 4) 0 with detectLevel := 1 / 20 } l) :=
  lfr_first_drift_mono exFloor (cfg (1 / 4) 0) (1 / 10) (1 / 20) (by norm_num) l

/-- before either alarms the caches differ (the detect bounds of the key (2/3, 3) are [1/10, 31/40]
    under `1/10` and [1/20, 33/40] under `1/20`) — same keys, nested intervals -/
example : ((ops.take 1).foldl (stepOp (cfg (1 / 4) (1 / 10))) init).cache.map
      (fun e => (e.1, e.2.lbDetect, e.2.ubDetect)) = [((2 / 3, 3), 1 / 10, 31 / 40)] ∧
    ((ops.take 1).foldl (stepOp (cfg (1 / 4) (1 / 20))) init).cache.map
      (fun e => (e.1, e.2.lbDetect, e.2.ubDetect)) = [((2 / 3, 3), 1 / 20, 33 / 40)] := by decide +kernel

/-- warning clause: `warning_level = 1/4` warns after 1, 3, 4 samples, `1/10` only after 4; both report
    drift after 5; after the reset the cached bounds are used (the cache keeps its 5 entries) -/
example : ops.length = 7 ∧
    (run (cfg (1 / 4) (1 / 20)) (ops.take 1)).drift = .warning ∧
    (run (cfg (1 / 10) (1 / 20)) (ops.take 1)).drift = .none ∧
    (run (cfg (1 / 4) (1 / 20)) (ops.take 4)).drift = .warning ∧
    (run (cfg (1 / 10) (1 / 20)) (ops.take 4)).drift = .warning ∧
    (run (cfg (1 / 4) (1 / 20)) (ops.take 5)).drift = .drift ∧
    (run (cfg (1 / 10) (1 / 20)) (ops.take 5)).drift = .drift ∧
    (run (cfg (1 / 4) (1 / 20)) (ops.take 6)).drift = .warning ∧
    (run (cfg (1 / 10) (1 / 20)) (ops.take 6)).drift = .none ∧
    (run (cfg (1 / 4) (1 / 20)) ops).cache.length = 5 := by decide +kernel
example (l : List Op) : True := by
  have _h := lfr_warning_only exFloor (cfg 0 (1 / 20)) (1 / 4) (1 / 10) (by norm_num) l
  have _g := lfr_drift_ignores_warning (cfg 0 (1 / 20)) (1 / 4) (1 / 10) l
  trivial

end Examples

end MV.C17.LFR
