/-
  C17 — HDDDM / CDBD at concrete carriers.  Over `ℝ` (`Real.sqrt`, `Real.log`) the square root is non-negative,
  so `hdm_first_drift_mono` holds without a hypothesis on it.  Then histories on which the stricter setting
  alarms later, and the theorems of Props/C17HDM.lean applied to them.  Carrier `ℚ` with a non-negative stand-in for `sqrt`, a user divergence (number of batch rows
  in the first bin), `detect_batch = 3`; batches of `k` zeros and one 4.  The recorded distances are 2, 3, 1, 1, 12,
  so ε = 1, 2, 0, 11; the first test (third batch) compares ε = 2 with β = 1/2 + s/8 (`stdev`) resp. 1/2 + t/16
  (`tstat`).
-/
import MenelausVerif.Props.C17HDM
import MenelausVerif.Lemmas.HDMReal
import Mathlib.Data.Rat.Floor
namespace MV.C17.HDM
open MV MV.Mono MV.HDM

section real
open scoped MV.HDM

/-- `hdm_first_drift_mono` at `ℝ` (`Real.sqrt`, `Real.log`): no hypothesis on the square root -/
theorem hdm_first_drift_mono_real (c : Cfg ℝ) (loose strict : ℝ)
    (hσ : c.stat = .stdev → loose ≤ strict) (a b : State ℝ) (h : HRel a b) (xs ys : List (Op ℝ))
    (hxy : Zip (fun x y => OpRel x y ∧ (c.stat = .tstat → tcritOf x ≤ tcritOf y)) xs ys) :
    NoLater (firstIdx (driftTrace (stepT { c with signif := loose }) (fun s => isD s.drift) a xs))
      (firstIdx (driftTrace (stepT { c with signif := strict }) (fun s => isD s.drift) b ys)) :=
  hdm_first_drift_mono Real.sqrt_nonneg c loose strict hσ a b h xs ys hxy

end real

namespace Examples
local instance exSqrt : HasSqrt ℚ := ⟨fun x => if x < 0 then 0 else x⟩
local instance : HasLogExp ℚ := ⟨id, id⟩
local instance : HasLog1p ℚ := ⟨id⟩
local instance : MV.HDM.HasTrunc ℚ := ⟨fun x => ⌊x⌋.toNat⟩

theorem exSqrt_nonneg : ∀ x : ℚ, 0 ≤ sqrt x := by
  intro x
  show 0 ≤ (if x < 0 then 0 else x)
  split
  · exact le_refl _
  · rename_i h; exact not_lt.1 h

def cfg (st : Stat) : Cfg ℚ :=
  { div := .user (fun _ t => ((t.headD 0 : Nat) : ℚ)), detectBatch := 3, stat := st, signif := 0 }
def bt (k : Nat) : List (List ℚ) := List.replicate k [0] ++ [[4]]
def ops (t : ℚ) : List (Op ℚ) :=
  [.setRef (bt 1) ⟨0, t⟩, .batch (bt 1) ⟨0, t⟩, .batch (bt 3) ⟨0, t⟩, .batch (bt 1) ⟨0, t⟩,
   .batch (bt 1) ⟨0, t⟩, .batch (bt 12) ⟨0, t⟩]
def fd (c : Cfg ℚ) (l : List (Op ℚ)) : Option Nat :=
  firstIdx (driftTrace (stepT c) (fun s => isD s.drift) init l)

/-- `stdev`: 0 standard deviations alarm on the fourth call, 16 only on the sixth -/
example : fd { cfg .stdev with signif := 0 } (ops 0) = some 3 ∧
    fd { cfg .stdev with signif := 16 } (ops 0) = some 5 := by decide +kernel
example (l : List (Op ℚ)) : NoLater (fd { cfg .stdev with signif := 0 } l) (fd { cfg .stdev with signif := 16 } l) :=
  hdm_stdev_first_drift_mono exSqrt_nonneg (cfg .stdev) rfl 0 16 (by norm_num) init nofun l

/-- `tstat`: critical value 0 alarms on the fourth call, critical value 32 only on the sixth -/
example : fd (cfg .tstat) (ops 0) = some 3 ∧ fd (cfg .tstat) (ops 32) = some 5 := by decide +kernel
example : withTcrit (ops 0) [32, 32, 32, 32, 32, 32] = ops 32 := rfl
example (l : List (Op ℚ)) : NoLater (fd (cfg .tstat) (withTcrit l [0, 0, 0, 0, 0, 0]))
    (fd (cfg .tstat) (withTcrit l [32, 32, 32, 32, 32, 32])) :=
  hdm_tstat_first_drift_mono exSqrt_nonneg (cfg .tstat) rfl init nofun l _ _ rfl
    (by decide)

/-- before either alarms the two runs are in different states (the recorded β differs): `HRel`, not
    equality, is what is kept -/
example : ((ops 0).take 4 |>.foldl (stepT { cfg .stdev with signif := 16 }) init).beta = some (5 / 2) ∧
    ((ops 0).take 4 |>.foldl (stepT { cfg .stdev with signif := 32 }) init).beta = some (9 / 2) ∧
    ((ops 0).take 4 |>.foldl (stepT { cfg .stdev with signif := 32 }) init).drift = .none := by
  decide +kernel

end Examples

end MV.C17.HDM
