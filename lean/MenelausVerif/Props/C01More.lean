/-
  C01, part 3 — the detector models whose update can be *rejected* (`none`: the kdq-tree build runs out
  of fuel — Python's RecursionError —; HDM's `_validate_X` / the one-row proxy batch of
  `detect_batch = 1`): **KdqTreeStreaming**, **KdqTreeBatch** (`Model/KdqDetect.lean`) and **HDDDM / CDBD**
  (`Model/HDM.lean`).  The contract quantifies over accepted updates only, so the rows of a history are
  `rowsOfOpt … = some os` (defined exactly when no update of the history is rejected; a prefix of a
  history is a history, so the rows up to a first rejected update are covered) and the transfer lemma is
  `model_accepted_opt`.  Every configuration, every carrier (no arithmetic law is used, so the statements
  hold for the executed `Float` instance).  With `Props/C01Models.lean` this covers all 15 detectors of
  the property.

  The rows are those `harness/checks/c01.py` feeds to the same acceptor for the real classes, with the
  `Cfg` of `harness/impl/zoo.py` (`Family.lifecycle`):
  * KdqTreeStreaming — `kdqS window 1 1 1`, no recs; `refDone` is derived from the inputs as in the
    harness (`epoch_pos == window_size`, where `epoch_pos` restarts at 1 on the update after a reported
    drift): the model state is paired with that counter (`KdqSL`), and `kdqS_refDone_iff_built` shows
    that the signal coincides with the model's own `built` event.
  * KdqTreeBatch — `batch1 0 1 1 1`; the harness runs it both after `set_reference(X0)` and without
    (then `refDone = (i == 0)`: the first update only installs its batch as the reference):
    `kdqBatch_accepted` (`ref : Option …`).  `set_reference` has no row of its own — its place in the
    acceptor's input is the `init total since` line, i.e. the acceptor's starting memory — so a
    `set_reference` later in a history is covered by `kdqBatch_accepted_after_setRef`.
  * HDDDM / CDBD — `hdm detect_batch 1 r r` with `r = 2` for `detect_batch = 1` (the proxy batch split
    off the reference is pushed through `update` by `reset` and counted in both counters), else 1; the
    harness always calls `set_reference` first (`update` before it raises) and starts the acceptor
    with `init 1 1` (`detect_batch = 1`) / `init 0 0`: `hdm_accepted` (`hdmMon0`), from
    `hdm_accepted_after_setRef` (`set_reference` in an arbitrary state).  Hypothesis `detect_batch ≤ 3`:
    the constructor does not validate the documented range {1, 2, 3}; it cannot be dropped (last
    `exHdmRows` example of `Props/C01Examples.lean`).

  `Props/C01Examples.lean` exhibits, per detector, a history whose hypotheses hold (`rowsOfOpt … = some …`)
  with several drifts, the restart after each, a completed reference window, back-to-back drifts for
  HDM(1).
-/
import MenelausVerif.Props.C01
import MenelausVerif.Lemmas.HDMStep
import MenelausVerif.Lemmas.KdqStep
namespace MV.Lifecycle
open MV

/-- rows observed along a run of a detector model whose update may be rejected (`none`): `some rows`
    exactly when every update of the history is accepted -/
def rowsOfOpt {σ ι : Type} (step : σ → ι → Option σ) (row : σ → ι → Obs) : σ → List ι → Option (List Obs)
  | _, [] => some []
  | s, x :: xs =>
    match step s x with
    | none => none
    | some s' => (rowsOfOpt step row s' xs).map (fun os => row s' x :: os)

/-- `Keeps` for a step that may be rejected: the hypothesis of `model_accepted_opt` -/
def KeepsOpt {σ ι : Type} (c : Cfg) (step : σ → ι → Option σ) (row : σ → ι → Obs) (Inv : Mon → σ → Prop) :
    Prop :=
  ∀ m s x s', Inv m s → step s x = some s' → violated c m (row s' x) = none ∧ Inv (advance m (row s' x)) s'

/-- **Transfer lemma, partial models.**  As `model_accepted`, for a step that may be rejected: the
    rows of every history of accepted updates are accepted by the acceptor. -/
theorem model_accepted_opt {σ ι : Type} (c : Cfg) (step : σ → ι → Option σ) (row : σ → ι → Obs)
    (Inv : Mon → σ → Prop)
    (hstep : ∀ m s x s', Inv m s → step s x = some s' →
      violated c m (row s' x) = none ∧ Inv (advance m (row s' x)) s') :
    ∀ (xs : List ι) (m : Mon) (s : σ) (i : Nat) (os : List Obs), Inv m s →
      rowsOfOpt step row s xs = some os → accept c m i os = none := by
  intro xs
  induction xs with
  | nil =>
    intro m s i os _ h
    cases h; rfl
  | cons x xs ih =>
    intro m s i os hinv h
    unfold rowsOfOpt at h
    cases hs : step s x with
    | none => rw [hs] at h; cases h
    | some s' =>
      rw [hs] at h
      obtain ⟨os', hr, rfl⟩ := Option.map_eq_some_iff.1 h
      obtain ⟨h1, h2⟩ := hstep m s x s' hinv hs
      simp only [accept, h1]
      exact ih _ _ _ _ h2 hr

section KdqStream
open MV.KdqDet MV.Kdq
variable {α : Type} [Inhabited α] [Add α] [Sub α] [Mul α] [Div α] [LT α] [DecidableLT α]
  [LE α] [DecidableLE α] [NatCast α] [BEq α] [HasLogExp α] [HasRint α] [Kdq.HasTrunc α]

/-- the detector paired with the harness's position counter: `epoch_pos` of `harness/checks/c01.py`
    (1 on the update after a reported drift, else one more than before) -/
structure KdqSL (α : Type) where
  st : SState α
  pos : Nat

/-- one `update(x)`: the sample and the bootstrap draws the update consumes if it completes a reference -/
abbrev KdqSIn (α : Type) := List α × List (List Nat)

def kdqSInitL : KdqSL α := ⟨sInit, 0⟩

def kdqSStepL (c : SCfg α) (s : KdqSL α) (i : KdqSIn α) : Option (KdqSL α) :=
  (sStep c s.st i.1 i.2).map (fun r => ⟨r.1, if s.st.drift = .drift then 1 else s.pos + 1⟩)

def kdqSCfg (c : SCfg α) : Cfg :=
  { kind := .kdqS, a := c.window, b := 1, restart := 1, incAfterDrift := 1, hasRecs := false }

def kdqSRow (c : SCfg α) (s : KdqSL α) (_ : KdqSIn α) : Obs :=
  { drift := s.st.drift, total := s.st.total, since := s.st.since, recs := (none, none), err := false,
    refDone := decide (s.pos = c.window) }

/-- `Mirror` written out, the acceptor's `refBuilt` is "the tree exists", and about model and counter
    alone: the streaming detector never warns; `pos` is the sample's position in its epoch — while the
    reference window fills it is the number of samples collected, afterwards it is at least
    `window_size` and `since` counts the test samples. -/
def kdqSInv (c : SCfg α) (m : Mon) (s : KdqSL α) : Prop :=
  m.total = s.st.total ∧ m.since = s.st.since ∧ m.prevDrift = s.st.drift ∧ m.refBuilt = s.st.tree.isSome ∧
  s.st.drift ≠ .warning ∧
  (s.st.tree = none → s.st.refData.length = s.pos) ∧
  (s.st.tree.isSome = true → c.window ≤ s.pos ∧ s.st.since = s.st.testSize)

/-- **One accepted update, read against the invariant.**  `n` is the harness's position of the sample
    in its epoch, `E` the value the contract expects of `since` when no reference completes, `B` the
    acceptor's "a reference exists and no drift was just reported".  The sample completes the reference
    window exactly when `n = window_size`; before that it goes to the reference window, after that it is
    a test sample — `since` then counts the test samples, and only then can the state be non-`None`. -/
theorem kdqS_step_facts (c : SCfg α) (m : Mon) (s : KdqSL α) (x : List α) (d : List (List Nat))
    (t' : SState α) (ev : Ev) (h : kdqSInv c m s) (hst : sStep c s.st x d = some (t', ev))
    {n E : Nat} {B : Bool} (hn : n = if s.st.drift = .drift then 1 else s.pos + 1)
    (hE : E = if m.prevDrift = .drift then 1 else m.since + 1)
    (hB : B = (m.refBuilt && !decide (m.prevDrift = .drift))) :
    t'.total = s.st.total + 1 ∧ t'.drift ≠ .warning ∧ (n = c.window ↔ ev = .built) ∧
    t'.since = (if n = c.window then 0 else E) ∧ t'.tree.isSome = (B || decide (n = c.window)) ∧
    (t'.drift ≠ .none → B = true ∧ n ≠ c.window ∧ c.window ≤ t'.since) ∧
    (t'.tree = none → t'.refData.length = n) ∧
    (t'.tree.isSome = true → c.window ≤ n ∧ t'.since = t'.testSize) := by
  obtain ⟨-, h2, h3, h4, h5, h6, h7⟩ := h
  refine ⟨sStep_total hst, ?_⟩
  -- the invariant, read on the state `sPre s.st` in which the update proper starts
  have hP : (sPre s.st).drift = .none ∧ (sPre s.st).since + 1 = E ∧
      B = (sPre s.st).tree.isSome ∧
      ((sPre s.st).tree = none → (sPre s.st).refData.length + 1 = n) ∧
      ((sPre s.st).tree.isSome = true → c.window < n ∧ (sPre s.st).since = (sPre s.st).testSize) := by
    by_cases hd : s.st.drift = .drift
    · rw [sPre_of_drift hd, hn, hE, hB, h3, if_pos hd, if_pos hd, decide_eq_true hd]
      exact ⟨rfl, rfl, Bool.and_false _, fun _ => rfl, nofun⟩
    · rw [sPre_of_not_drift hd, hn, hE, hB, h2, h3, h4, if_neg hd, if_neg hd, decide_eq_false hd]
      exact ⟨Drift.eq_none_of_ne h5 hd, rfl, Bool.and_true _, fun ht => congrArg (· + 1) (h6 ht),
        fun ht => ⟨Nat.lt_succ_of_le (h7 ht).1, (h7 ht).2⟩⟩
  have hc := sStep_cases hst
  generalize sPre s.st = P at hc hP
  obtain ⟨p2, p3, p4, p5, p6⟩ := hP
  have hquiet : P.drift ≠ .warning ∧ (P.drift ≠ .none → B = true ∧ n ≠ c.window ∧ c.window ≤ P.since + 1) :=
    ⟨by rw [p2]; nofun, fun hne => absurd p2 hne⟩
  cases hc with
  | building ht hw =>
    have hne : n ≠ c.window := p5 ht ▸ hw
    have hB0 : B = false := p4.trans (congrArg Option.isSome (show P.tree = none from ht))
    exact ⟨hquiet.1, ⟨fun h => absurd h hne, nofun⟩, p3.trans (if_neg hne).symm,
      by rw [hB0, decide_eq_false hne]; exact congrArg Option.isSome ht, hquiet.2,
      fun _ => List.length_append.trans (p5 ht),
      fun h => absurd ((congrArg Option.isSome ht).symm.trans h) nofun⟩
  | built ht hw hb =>
    have he : n = c.window := (p5 ht).symm.trans hw
    exact ⟨nofun, ⟨fun _ => rfl, fun _ => he⟩, (if_pos he).symm,
      by rw [decide_eq_true he, Bool.or_true]; rfl, fun h => absurd rfl h, nofun,
      fun _ => ⟨Nat.le_of_eq he.symm, rfl⟩⟩
  | @waiting t ht hw =>
    have ht' : P.tree.isSome = true := by rw [show P.tree = some t from ht]; rfl
    have hne : n ≠ c.window := Nat.ne_of_gt (p6 ht').1
    exact ⟨hquiet.1, ⟨fun h => absurd h hne, nofun⟩, p3.trans (if_neg hne).symm,
      by rw [p4, ht']; rfl, hquiet.2, nofun, fun _ => ⟨Nat.le_of_lt (p6 ht').1, congrArg (· + 1) (p6 ht').2⟩⟩
  | @eval t ht hw =>
    have ht' : P.tree.isSome = true := by rw [show P.tree = some t from ht]; rfl
    have hne : n ≠ c.window := Nat.ne_of_gt (p6 ht').1
    refine ⟨?_, ⟨fun h => absurd h hne, nofun⟩, p3.trans (if_neg hne).symm,
      by rw [p4, ht']; rfl, fun _ => ⟨p4.trans ht', hne, ?_⟩, nofun,
      fun _ => ⟨Nat.le_of_lt (p6 ht').1, congrArg (· + 1) (p6 ht').2⟩⟩
    · show (if _ then Drift.drift else P.drift) ≠ .warning
      split
      · nofun
      · exact hquiet.1
    · show c.window ≤ P.since + 1
      rw [(p6 ht').2]; exact hw

theorem kdqS_step_ok (c : SCfg α) : KeepsOpt (kdqSCfg c) (kdqSStepL c) (kdqSRow c) (kdqSInv c) := by
  intro m s i s' h hs
  obtain ⟨⟨t', ev⟩, hst, rfl⟩ := Option.map_eq_some_iff.1 hs
  obtain ⟨f1, f2, -, f4, f5, f6, f7, f8⟩ := kdqS_step_facts c m s i.1 i.2 t' ev h hst rfl rfl rfl
  generalize (if s.st.drift = .drift then 1 else s.pos + 1) = n at *
  -- the row: `refDone` is `n = window_size`; the acceptor's `refBuilt` afterwards is `_ || refDone`
  have hrow : kdqSRow c ⟨t', n⟩ i =
      { drift := t'.drift, total := t'.total, since := t'.since, recs := (none, none), err := false,
        refDone := decide (n = c.window) } := rfl
  rw [hrow]
  have ht : t'.total = m.total + if m.prevDrift = .drift then 1 else 1 := by rw [ite_self, f1, h.1]
  refine ⟨violated_none_of_mirror ⟨rfl, rfl, rfl⟩ ht
    (f4.trans (ite_congr (propext decide_eq_true_iff.symm) (fun _ => rfl) (fun _ => rfl))) (fun hd => ?_) nofun nofun nofun,
    rfl, rfl, rfl, f5.symm, f2, f7, f8⟩
  obtain ⟨g1, g2, g3⟩ := f6 hd
  show ((m.refBuilt && !decide (n = c.window) && !decide (m.prevDrift = .drift)) &&
    decide (t'.since ≥ c.window)) = true
  rw [decide_eq_false g2, Bool.not_false, Bool.and_true, g1, decide_eq_true g3]; rfl

/-- the harness's input-derived signal "this update completed the reference window" (`epoch_pos ==
    window_size`) is the model's `built` event, for an accepted update from a state with `kdqSInv` (every
    state along a history from `kdqSInitL` has it, by `kdqS_step_ok`; the acceptor's memory `m` plays no
    part here, only the clauses about model and counter are used) -/
theorem kdqS_refDone_iff_built (c : SCfg α) (m : Mon) (s : KdqSL α) (i : KdqSIn α) (t' : SState α) (ev : Ev)
    (h : kdqSInv c m s) (hst : sStep c s.st i.1 i.2 = some (t', ev)) :
    (if s.st.drift = .drift then 1 else s.pos + 1) = c.window ↔ ev = .built :=
  (kdqS_step_facts c m s i.1 i.2 t' ev h hst rfl rfl rfl).2.2.1

/-- **KdqTreeStreaming satisfies the lifecycle contract on every history of accepted updates** (every
    configuration — window size, persistence, alpha, partitioner bounds —, every sequence of samples and
    bootstrap draws on which no update is rejected, i.e. the tree build never runs out of fuel).  The
    rows are the ones `harness/checks/c01.py` hands to the acceptor for the real class: the `refDone`
    signal is derived from the position in the epoch, not read from the detector. -/
theorem kdqStream_accepted (c : SCfg α) (xs : List (KdqSIn α)) (os : List Obs)
    (h : rowsOfOpt (kdqSStepL c) (kdqSRow c) kdqSInitL xs = some os) :
    accept (kdqSCfg c) {} 0 os = none :=
  model_accepted_opt _ _ _ _ (kdqS_step_ok c) xs {} kdqSInitL 0 os (by simp [kdqSInv, kdqSInitL, sInit]) h

end KdqStream

section KdqBatch
open MV.KdqDet MV.Kdq
variable {α : Type} [Inhabited α] [Add α] [Sub α] [Mul α] [Div α] [LT α] [DecidableLT α]
  [LE α] [DecidableLE α] [NatCast α] [BEq α] [HasLogExp α] [HasRint α] [Kdq.HasTrunc α]

/-- the detector paired with the number of updates fed so far (the harness's loop index) -/
structure KdqBL (α : Type) where
  st : BState α
  n : Nat

/-- one `update(X)`: the established width, the batch, the bootstrap draws of the reference (re)build -/
abbrev KdqBIn (α : Type) := Nat × List (List α) × List (List Nat)

def kdqBStepL (c : BCfg α) (s : KdqBL α) (i : KdqBIn α) : Option (KdqBL α) :=
  (bStep c s.st i.1 i.2.1 i.2.2).map (fun r => ⟨r.1, s.n + 1⟩)

def kdqBCfg : Cfg :=
  { kind := .batch1, a := 0, b := 1, restart := 1, incAfterDrift := 1, hasRecs := false }

/-- `noRef` = the history started without `set_reference`; `refDone` is the harness's
    `no_setref and i == 0` (the row is read off the state after the update, whose `n` is `i + 1`) -/
def kdqBRow (noRef : Bool) (s : KdqBL α) (_ : KdqBIn α) : Obs :=
  { drift := s.st.drift, total := s.st.total, since := s.st.since, recs := (none, none), err := false,
    refDone := noRef && s.n == 1 }

def kdqBInv (noRef : Bool) (m : Mon) (s : KdqBL α) : Prop :=
  Mirror m s.st.total s.st.since s.st.drift ∧
  ((noRef = true ∧ s.n = 0) → s.st.tree = none ∧ s.st.drift ≠ .drift) ∧
  (¬(noRef = true ∧ s.n = 0) → s.st.tree.isSome = true)

theorem kdqB_step_ok (c : BCfg α) (noRef : Bool) :
    KeepsOpt kdqBCfg (kdqBStepL c) (kdqBRow noRef) (kdqBInv noRef) := by
  intro m s i s' ⟨hm, h4, h5⟩ hs
  obtain ⟨⟨t', flag⟩, hst, rfl⟩ := Option.map_eq_some_iff.1 hs
  obtain ⟨f1, f2, f3, f4, -⟩ := bStep_fields hst
  have ht : t'.total = s.st.total + if s.st.drift = .drift then 1 else 1 := by rw [ite_self, f1]
  -- only the update that installs the reference of a history without `set_reference` has `refDone`
  have hz : (noRef && s.n + 1 == 1) = true ↔ s.st.drift ≠ .drift ∧ s.st.tree = none := by
    rw [Bool.and_eq_true, beq_iff_eq, Nat.add_eq_right]
    refine ⟨fun z => ⟨(h4 z).2, (h4 z).1⟩, fun ⟨_, ht⟩ => Decidable.byContradiction fun nz => ?_⟩
    have := h5 nz
    rw [ht] at this; cases this
  exact ⟨violated_none_of_mirror hm ht (f3.trans (ite_congr (propext hz.symm) (fun _ => rfl) (fun _ => rfl)))
    (fun hd => decide_eq_true (f4 hd)) nofun nofun nofun, .advance .., nofun, fun _ => f2⟩

/-- the detector before its first update: fresh (`none`) or after `set_reference(X)` (`some (width, X,
    bootstrap draws)`; rejected when the tree build fails) -/
def kdqBStart (c : BCfg α) : Option (KdqBIn α) → Option (KdqBL α)
  | none => some ⟨bInit, 0⟩
  | some r => (bSetRef c bInit r.1 r.2.1 r.2.2).map (fun s => ⟨s, 0⟩)

/-- **KdqTreeBatch satisfies the lifecycle contract after a `set_reference` call at any point** (whatever
    state `s` the detector was in): the updates that follow form an accepted trace for the acceptor
    started — as the harness does with its `init` line — from the counters observed right after
    `set_reference`. -/
theorem kdqBatch_accepted_after_setRef (c : BCfg α) (s s0 : BState α) (w : Nat) (R : List (List α))
    (d : List (List Nat)) (h0 : bSetRef c s w R d = some s0) (xs : List (KdqBIn α)) (os : List Obs)
    (h : rowsOfOpt (kdqBStepL c) (kdqBRow false) ⟨s0, 0⟩ xs = some os) :
    accept kdqBCfg { total := s0.total, since := s0.since } 0 os = none := by
  obtain ⟨-, -, -, g3, g4⟩ := bSetRef_fields h0
  exact model_accepted_opt _ _ _ _ (kdqB_step_ok c false) xs _ ⟨s0, 0⟩ 0 os
    ⟨⟨rfl, rfl, g3.symm⟩, fun h => absurd h.1 Bool.false_ne_true, fun _ => g4⟩ h

/-- **KdqTreeBatch satisfies the lifecycle contract on every history of accepted updates**, with or
    without a `set_reference` call before the first update (both ways are exercised by
    `harness/checks/c01.py`; without it the first update only installs its batch as the reference and
    its row carries `refDone`). -/
theorem kdqBatch_accepted (c : BCfg α) (ref : Option (KdqBIn α)) (s0 : KdqBL α) (xs : List (KdqBIn α))
    (os : List Obs) (h0 : kdqBStart c ref = some s0)
    (h : rowsOfOpt (kdqBStepL c) (kdqBRow ref.isNone) s0 xs = some os) :
    accept kdqBCfg {} 0 os = none := by
  cases ref with
  | none =>
    cases h0
    exact model_accepted_opt _ _ _ _ (kdqB_step_ok c true) xs {} ⟨bInit, 0⟩ 0 os
      ⟨⟨rfl, rfl, rfl⟩, fun _ => ⟨rfl, nofun⟩, fun h => absurd ⟨rfl, rfl⟩ h⟩ h
  | some r =>
    obtain ⟨s1, hr, rfl⟩ := Option.map_eq_some_iff.1 h0
    obtain ⟨g1, -, g2, -, -⟩ := bSetRef_fields hr
    have := kdqBatch_accepted_after_setRef c bInit s1 r.1 r.2.1 r.2.2 hr xs os h
    rwa [g1, g2] at this

end KdqBatch

section HDM
open MV.HDM
variable {α : Type} [Add α] [Sub α] [Mul α] [Div α] [Neg α] [LT α] [DecidableLT α]
  [LE α] [DecidableLE α] [NatCast α] [BEq α] [HasSqrt α] [HasLogExp α] [HDM.HasLog1p α] [HDM.HasTrunc α]

/-- the configuration `harness/impl/zoo.py` (`HdddmF.lifecycle`) hands to the acceptor -/
def hdmCfg (c : HDM.Cfg α) : Cfg :=
  { kind := .hdm, a := c.detectBatch, b := 1,
    restart := if c.detectBatch = 1 then 2 else 1,
    incAfterDrift := if c.detectBatch = 1 then 2 else 1, hasRecs := false }

/-- one `update(X)`: the batch and the external values it consumes (bootstrap ε₀, `t` critical value) -/
abbrev HdmIn (α : Type) := List (List α) × HDM.Oracle α

def hdmStep (c : HDM.Cfg α) (s : HDM.State α) (i : HdmIn α) : Option (HDM.State α) := HDM.update c i.2 s i.1

def hdmRow (s : HDM.State α) (_ : HdmIn α) : Obs :=
  { drift := s.drift, total := s.total, since := s.since, recs := (none, none), err := false, refDone := false }

def hdmInv (m : Mon) (s : HDM.State α) : Prop :=
  Mirror m s.total s.since s.drift ∧ HDM.Inv s

theorem hdm_step_ok (c : HDM.Cfg α) (h3 : c.detectBatch ≤ 3) :
    KeepsOpt (hdmCfg c) (hdmStep c) hdmRow hdmInv := by
  intro m s i s' ⟨hm, h4⟩ hs
  obtain ⟨ct, cs⟩ := update_total_since hs
  have hinv : HDM.Inv s' := step_inv c s s' (.batch i.1 i.2) h4 hs
  have hw : s'.drift ≠ .none → s'.since ≥ max 2 c.detectBatch := by
    intro hne
    refine testsDrift_ge c _ h3 ?_
    cases ht : testsDrift c s'.since
    · exact absurd (update_no_early_drift c i.2 s s' i.1 h4 hs ht) hne
    · rfl
  refine ⟨violated_none_of_mirror hm ?_ cs (fun hd => decide_eq_true (hw hd)) nofun nofun nofun,
    .advance .., hinv⟩
  show s'.total = s.total + if s.drift = .drift then (if c.detectBatch = 1 then 2 else 1) else 1
  rw [ct]
  by_cases hd : s.drift = .drift <;> by_cases hb : c.detectBatch = 1 <;> simp [hd, hb]

/-- **HDDDM / CDBD satisfy the lifecycle contract after a `set_reference` call at any point** (whatever
    state `s` the detector was in — fresh, or after any history): every sequence of accepted updates
    that follows is an accepted trace for the acceptor started, as the harness does with its `init`
    line, from the counters observed right after `set_reference`.  `detect_batch ≤ 3` covers the
    documented values 1, 2, 3 (the constructor does not check it). -/
theorem hdm_accepted_after_setRef (c : HDM.Cfg α) (h3 : c.detectBatch ≤ 3) (s s0 : HDM.State α)
    (X0 : List (List α)) (o0 : HDM.Oracle α) (h0 : setReference c o0 s X0 = some s0)
    (xs : List (HdmIn α)) (os : List Obs) (h : rowsOfOpt (hdmStep c) hdmRow s0 xs = some os) :
    accept (hdmCfg c) { total := s0.total, since := s0.since } 0 os = none := by
  exact model_accepted_opt _ _ _ _ (hdm_step_ok c h3) xs _ s0 0 os
    ⟨⟨rfl, rfl, (setReference_spec c o0 s s0 X0 h0).2.2.2.1.symm⟩, Inv.of_setReference h0⟩ h

/-- the acceptor's memory after the harness's `init` line for a fresh detector given its reference:
    both counters are 1 with `detect_batch = 1` (the proxy batch), else 0 -/
def hdmMon0 (c : HDM.Cfg α) : Mon :=
  { total := if c.detectBatch = 1 then 1 else 0, since := if c.detectBatch = 1 then 1 else 0 }

/-- **HDDDM / CDBD satisfy the lifecycle contract on every history** `set_reference(X0)`, then any
    sequence of accepted updates, from a fresh detector — for `detect_batch` 1, 2 and 3, both statistics,
    every divergence (Hellinger, Jensen–Shannon, user function), HDDDM and CDBD (`univariate`), whatever
    bootstrap / `t` values the updates are given. -/
theorem hdm_accepted (c : HDM.Cfg α) (h3 : c.detectBatch ≤ 3) (s0 : HDM.State α)
    (X0 : List (List α)) (o0 : HDM.Oracle α) (h0 : setReference c o0 HDM.init X0 = some s0)
    (xs : List (HdmIn α)) (os : List Obs) (h : rowsOfOpt (hdmStep c) hdmRow s0 xs = some os) :
    accept (hdmCfg c) (hdmMon0 c) 0 os = none := by
  have := hdm_accepted_after_setRef c h3 HDM.init s0 X0 o0 h0 xs os h
  obtain ⟨_, _, _, _, _, _, _, hs, ht, _⟩ := setReference_spec c o0 HDM.init s0 X0 h0
  rw [hs, ht] at this
  simpa [hdmMon0, HDM.init] using this

/-- the histories the theorem quantifies over include the accepted call histories of `HDM.run`: when
    `run` accepts the updates from `s` (for `hdm_accepted`: the state `set_reference` left), the rows
    exist, one per update -/
theorem hdm_rows_of_run (c : HDM.Cfg α) (xs : List (HdmIn α)) (s s' : HDM.State α)
    (h : HDM.run c s (xs.map (fun i => Op.batch i.1 i.2)) = some s') :
    ∃ os, rowsOfOpt (hdmStep c) hdmRow s xs = some os ∧ os.length = xs.length := by
  induction xs generalizing s with
  | nil => exact ⟨[], rfl, rfl⟩
  | cons x xs ih =>
    rw [List.map_cons, run_cons] at h
    obtain ⟨s1, hu, h⟩ := Option.bind_eq_some_iff.1 h
    obtain ⟨os, ho, hl⟩ := ih s1 h
    refine ⟨hdmRow s1 x :: os, ?_, congrArg (· + 1) hl⟩
    simp only [rowsOfOpt, show hdmStep c s x = some s1 from hu, ho, Option.map_some]

end HDM

end MV.Lifecycle
