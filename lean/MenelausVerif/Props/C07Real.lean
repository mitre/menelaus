/-
  C07 over ℝ (Lemmas/HDMReal.lean): the distance `update` records is 0 on equal data, symmetric in reference and
  batch of equal size, and between 0 and `√2` (HDDDM, Hellinger) resp. `√(ln 2)` (CDBD, Jensen-Shannon); the two
  histograms of a feature count every row once; the threshold of an epoch's second batch is the bootstrap estimate, also
  with the bootstrap modelled (`Props/C07Boot.lean`; at ℝ `truncNat` is the floor).
-/
import MenelausVerif.Props.C07Boot
import MenelausVerif.Lemmas.HDMReal
namespace MV.HDM
open MV

section real

/-- the three facts the property states about the distance between two count vectors -/
structure MetricFacts (d : Divergence ℝ) (B : ℝ) : Prop where
  self : ∀ h, d.apply h h = 0
  symm : ∀ r t, d.apply r t = d.apply t r
  bound : ∀ r t, r.length = t.length → 0 ≤ d.apply r t ∧ d.apply r t ≤ B

theorem hellinger_facts : MetricFacts (.hellinger : Divergence ℝ) (Real.sqrt 2) :=
  ⟨hellinger_self, hellinger_symm, fun r t h => ⟨hellinger_nonneg r t, hellinger_le_sqrt2 r t h⟩⟩

theorem jensenShannon_facts : MetricFacts (.js : Divergence ℝ) (Real.sqrt (Real.log 2)) :=
  ⟨jensenShannon_self, jensenShannon_symm, fun r t h => ⟨jensenShannon_nonneg r t, jensenShannon_le r t h⟩⟩

theorem distance_self (d : Divergence ℝ) (B : ℝ) (hd : MetricFacts d B) (dim bins : Nat)
    (ref : List (List ℝ)) : average dim (featureDistances d dim bins ref ref) = 0 := by
  have : featureDistances d dim bins ref ref = (List.range dim).map (fun _ => (0 : ℝ)) := by
    unfold featureDistances
    apply List.map_congr_left
    intro f _
    simp only [featureDistance, histPair]
    exact hd.self _
  rw [this, average, sumF_eq]
  simp

theorem rangeOf_comm (ref X : List (List ℝ)) (f : Nat) : rangeOf ref X f = rangeOf X ref f := by
  have h := List.perm_append_comm (l₁ := colOf ref f) (l₂ := colOf X f)
  simp only [rangeOf, extremum_perm (fun _ _ => le_antisymm) minOf_least h,
    extremum_perm (r := (· ≥ ·)) (fun _ _ h h' => le_antisymm h' h) maxOf_greatest h]

theorem histPair_comm (bins : Nat) (ref X : List (List ℝ)) (f : Nat) :
    histPair bins ref X f = ((histPair bins X ref f).2, (histPair bins X ref f).1) := by
  simp only [histPair, rangeOf_comm ref X f]

/-- equal numbers of rows give the same `floor(sqrt n)` bins, and the common range is the same either way -/
theorem distance_symm (d : Divergence ℝ) (B : ℝ) (hd : MetricFacts d B) (dim : Nat)
    (ref X : List (List ℝ)) (hlen : ref.length = X.length) :
    average dim (featureDistances d dim (Nat.sqrt ref.length) ref X) =
      average dim (featureDistances d dim (Nat.sqrt X.length) X ref) := by
  congr 1
  unfold featureDistances
  apply List.map_congr_left
  intro f _
  simp only [featureDistance]
  rw [hlen, histPair_comm (Nat.sqrt X.length) ref X f]
  exact hd.symm _ _

theorem distance_bounds' (d : Divergence ℝ) (B : ℝ) (hd : MetricFacts d B) (dim bins : Nat)
    (ref X : List (List ℝ)) :
    0 ≤ average dim (featureDistances d dim bins ref X) ∧
    average dim (featureDistances d dim bins ref X) ≤ B := by
  have hb : ∀ x ∈ featureDistances d dim bins ref X, 0 ≤ x ∧ x ≤ B := by
    intro x hx
    obtain ⟨f, -, rfl⟩ := List.mem_map.1 hx
    exact hd.bound _ _ (by simp [histPair, hist_length])
  have h0 : 0 ≤ (featureDistances d dim bins ref X).sum := List.sum_nonneg fun x hx => (hb x hx).1
  have h1 : (featureDistances d dim bins ref X).sum ≤ dim * B := by
    have := List.sum_le_card_nsmul _ B fun x hx => (hb x hx).2
    rwa [featureDistances, List.length_map, List.length_range, nsmul_eq_mul, ← featureDistances] at this
  rw [average, sumF_eq, one_eq]
  rcases Nat.eq_zero_or_pos dim with rfl | hdim
  · have hB := hd.bound [] [] rfl
    simp [featureDistances, hB.1.trans hB.2]
  · have hpos : (0 : ℝ) < dim := Nat.cast_pos.2 hdim
    exact ⟨mul_nonneg (by positivity) h0, by rw [one_div, inv_mul_le_iff₀ hpos]; exact h1⟩

theorem distance_bounds (d : Divergence ℝ) (B : ℝ) (hd : MetricFacts d B) (dim bins : Nat)
    (hdim : 1 ≤ dim) (ref X : List (List ℝ)) :
    0 ≤ average dim (featureDistances d dim bins ref X) ∧
    average dim (featureDistances d dim bins ref X) ≤ B :=
  distance_bounds' d B hd dim bins ref X

theorem histPair_totals (bins : Nat) (hb : 0 < bins) (ref X : List (List ℝ)) (f : Nat)
    (hne : colOf ref f ++ colOf X f ≠ []) :
    (histPair bins ref X f).1.sum = (colOf ref f).length ∧
    (histPair bins ref X f).2.sum = (colOf X f).length := by
  have hmin := minOf_least _ hne
  have hmax := maxOf_greatest _ hne
  have hle : minOf (colOf ref f ++ colOf X f) ≤ maxOf (colOf ref f ++ colOf X f) :=
    hmin.2 _ hmax.1
  have hsp : ∀ x ∈ colOf ref f ++ colOf X f, minOf (colOf ref f ++ colOf X f) ≤ x ∧
      x ≤ maxOf (colOf ref f ++ colOf X f) := fun x hx => ⟨hmin.2 x hx, hmax.2 x hx⟩
  exact ⟨hist_total bins hb _ _ _ hle fun x hx => hsp x (List.mem_append_left _ hx),
    hist_total bins hb _ _ _ hle fun x hx => hsp x (List.mem_append_right _ hx)⟩

theorem recorded_distance_bounds' (c : Cfg ℝ) (B : ℝ) (hd : MetricFacts c.div B) (o : Oracle ℝ)
    (s s' : State ℝ) (X : List (List ℝ)) (hi : Inv s) (h : update c o s X = some s') :
    ∃ v, s'.curDist = some v ∧ 0 ≤ v ∧ v ≤ B := by
  obtain ⟨dim, -, hcur, -⟩ := update_distance c o s s' X hi h
  exact ⟨_, hcur, distance_bounds' c.div B hd dim (Nat.sqrt s.reference.length) s.reference X⟩

/-- for HDDDM (`hellinger_facts`, `B = √2`) and CDBD (`jensenShannon_facts`, `B = √(ln 2)`) -/
theorem recorded_distance_bounds (c : Cfg ℝ) (B : ℝ) (hd : MetricFacts c.div B) (o : Oracle ℝ)
    (s s' : State ℝ) (X : List (List ℝ)) (hi : Inv s) (h : update c o s X = some s')
    (hdim : ∀ d, s'.dim = some d → 1 ≤ d) :
    ∃ v, s'.curDist = some v ∧ 0 ≤ v ∧ v ≤ B :=
  recorded_distance_bounds' c B hd o s s' X hi h

theorem recorded_distance_self (c : Cfg ℝ) (B : ℝ) (hd : MetricFacts c.div B) (o : Oracle ℝ)
    (s s' : State ℝ) (hi : Inv s) (h : update c o s s.reference = some s') :
    s'.curDist = some 0 := by
  obtain ⟨dim, _, hcur, _⟩ := update_distance c o s s' s.reference hi h
  rw [hcur, distance_self c.div B hd]

/-- on the second batch of an epoch (`detect_batch ≠ 3`) the threshold is the bootstrap estimate
    itself — this is why the harness can read ε₀ off `thresholds[t]` -/
theorem betaSpec_bootstrap (c : Cfg ℝ) (tcrit e0 : ℝ) : betaSpec c tcrit [e0] 1 = e0 := by
  unfold betaSpec devOf meanOf
  cases c.stat <;> simp [rsqrt]

end real

/-- the Hellinger bound is attained on disjoint histograms (so `hellinger_facts` is tight) -/
example : (hellinger [1, 0] [0, 1] : ℝ) = Real.sqrt 2 := by
  rw [hellinger_eq]; unfold hellSum; norm_num

/-- a state in the middle of an epoch satisfying the ε-invariant (hypothesis of `beta_def`) -/
example : ∃ (c : Cfg ℝ) (s : State ℝ), EpsInv c s ∧ s.since = 2 ∧ s.total = s.lambda + s.since ∧
    testsDrift c (s.since + 1) = true :=
  ⟨{ div := .hellinger, detectBatch := 3, stat := .tstat, signif := 1 },
   { (init : State ℝ) with since := 2, total := 2, eps := [1], epsValues := [(2, 1)] },
   by constructor <;> simp [realEps, init], rfl, rfl, by decide⟩

section boot

/-- **the threshold of the epoch's second batch is the modelled bootstrap estimate** — after any
    accepted history (in bootstrap form, from a fresh detector), an accepted `update` that is the
    second batch of its epoch (`detect_batch ≠ 3`) records `thresholds[t] = ε₀`, with ε₀ =
    `bootEps` of the reference, bins and ranges of the state the body of `update` runs in.
    (Transfer of `update_beta_of_inv` + `betaSpec_bootstrap` through `runB_some` / `updateB_some`.) -/
theorem updateB_threshold_is_bootEps (c : Cfg ℝ) (k : Nat) (ops : List (OpB ℝ)) (s s' : State ℝ) (e : Ext ℝ)
    (X : List (List ℝ)) (hrun : runB c k init ops = some s) (h : updateB c k e s X = some s')
    (h2 : s'.since = 2) (hdb : c.detectBatch ≠ 3) :
    ∃ s0 d, preStateB c e.tcrit s = some s0 ∧ validBatch c s0.dim X = some d ∧
      s'.thresholds.getLast? = some (s'.total, stepBootEps c k e.draws s0 d X) := by
  have hi := runB_inv c k ops init s inv_init hrun
  have hJ := run_epsInv c _ init s inv_init (epsInv_init c) (runB_some c k init s ops hrun)
  have hup := updateB_some c k e s s' X h
  obtain ⟨past, ε, hthr, -, hcase⟩ := update_beta_of_inv c (oracleOf c k e s X) s s' X hi hJ hup
    (by simp [testsDrift, h2, hdb])
  obtain ⟨s0, d, hp, hv, rfl, -⟩ := update_eq_some_of_inv hi hup
  rw [← preStateB_eq, oracleOf_tcrit] at hp
  -- the body ran as the second batch of its epoch: the bootstrap was due and β is its ε₀
  have hsince : s0.since + 1 = 2 := (updateCore_counters c _ s0 d X).2.symm.trans h2
  refine ⟨s0, d, hp, hv, ?_⟩
  rcases hcase with ⟨-, hpast⟩ | ⟨h3, -⟩
  · rw [hthr, hpast, h2, betaSpec_bootstrap, oracleOf_eq c k e s s0 X d hp hv]
    simp [stepOracle, bootDue, hsince, hdb]
  · omega

end boot

/-- `bootSize_eq_div` / `validDraws_iff` at `ℝ` (`truncNat = ⌊·⌋₊`): 3 subsets of a 6-row reference have
    `⌊(2/3)·6⌋ = 4` rows each, and these draws are valid -/
example : bootSize ℝ 3 6 = 4 ∧ validDraws ℝ 3 6 6 [[0, 1, 2, 0], [1, 1, 4, 5], [0, 0, 0, 0]] = true := by
  have h : bootSize ℝ 3 6 = 4 := by rw [bootSize_eq_div (fun _ => rfl) 3 6 (by decide)]
  refine ⟨h, ?_⟩
  rw [validDraws_iff, h]
  decide

/-- the hypotheses of `updateB_threshold_is_bootEps` are jointly satisfiable at `ℝ`: a two-call history
    from a fresh detector, then an accepted `update` that is the second batch of its epoch -/
example : ∃ (c : Cfg ℝ) (ops : List (OpB ℝ)) (s s' : State ℝ) (e : Ext ℝ) (X : List (List ℝ)),
    runB c 3 init ops = some s ∧ updateB c 3 e s X = some s' ∧ s'.since = 2 ∧ c.detectBatch ≠ 3 := by
  refine ⟨{ div := .user (fun _ _ => 0), detectBatch := 2, stat := .stdev, signif := 0 },
    [.setRef [[0], [1]] 0, .batch [[0], [1]] ⟨[], 0⟩], _, _, ⟨[[0, 1], [1, 1], [0, 0]], 0⟩, [[0], [1]],
    rfl, rfl, ?_, by decide⟩
  rw [(updateCore_counters _ _ _ _ _).2]
  rfl

end MV.HDM
