/-
  C08 — the kdq-tree partitions space consistently and conserves counts
  (`Model/KdqTree.lean`, transcription of menelaus/partitioners/KDQTreePartitioner.py).

  Three strengths of assumption on the carrier.  Everything about what `build` returns, `fill` and
  `to_plotly_dataframe` needs at most `Compl α`: the routing tests `x > mid` and `x ≤ mid` are
  complementary — true in every linear order, for the executed `Float` instance true on non-NaN data.
  Termination of `build` and the corrected distributions are over ordered fields; the divergence
  (Gibbs) is over ℝ, in `Props/C08Real.lean`.  The worked example over ℚ is in `Props/C08Examples.lean`.

  Rejected / excluded inputs: `build` on zero rows (numpy raises), NaN coordinates, fills whose
  column count differs from the build's.  A *float-only* defect is recorded as a known finding
  (`known-findings.txt`, kdq-midpoint-rounds-to-max): with adjacent floats `min + ptp/2` can
  round up to the maximum, then the upper half is empty (a `None` child, `noNilBelow = false`)
  or, in one dimension, the recursion never ends (`build = none`).  `build_terminates` shows that
  this is impossible in exact arithmetic; the fill theorems carry `noNilBelow` as a hypothesis.

  `build_spec` goes one way (`build = some t → Built … t`): that `Built` determines the tree, and the
  converse for enough fuel, are not stated.  That the model's fuel suffices whenever the Python
  recursion ends is proved for ordered fields only (`build_terminates`); for other carriers it rests on
  the argument in the comment on `buildFuel`.
-/
import MenelausVerif.Lemmas.KdqTree
import MenelausVerif.Lemmas.KdqArith
set_option linter.unusedSectionVars false
namespace MV.Kdq

section build
variable {α : Type} [Inhabited α] [Add α] [Sub α] [Mul α] [Div α] [LT α] [DecidableLT α]
  [LE α] [DecidableLE α] [NatCast α] [BEq α] [HasTrunc α]

/-- what `build` returns is the tree described by `Built` (refinement to the declarative
    description: `None` for no rows, leaf with the row count when the stop rule applies, else a
    split of axis `depth mod m` at `min + ptp/2` with the `≤` / `>` halves as children). -/
theorem build_spec (c : Cfg α) (m : Nat) (data : List (List α)) (t : Tree α) (h : build c m data = some t) :
    Built c.countUbound (minCutpointSizes c m data) m 0 data t :=
  buildAux_built _ _ _ _ _ _ _ h

theorem build_children_sum (hc : Compl α) (c : Cfg α) {m : Nat} (hm : 0 < m) (data : List (List α)) (t : Tree α)
    (h : build c m data = some t) : ChildrenSum 0 t :=
  ((build_spec c m data t h).counts hc hm).1

theorem build_leaf_sum (hc : Compl α) (c : Cfg α) {m : Nat} (hm : 0 < m) (data : List (List α)) (t : Tree α)
    (h : build c m data = some t) : (leafCountsD t 0).sum = data.length := by
  obtain ⟨h1, h2, _⟩ := (build_spec c m data t h).counts hc hm
  rw [leafSum_eq_rootCount 0 t h1, h2]

/-- **every internal node** of the built tree, wherever it sits (`Holds`: depth `ds`, holding the
    rows `q` of the data): it splits axis `ds mod m` at the midpoint `min + ptp/2` of the range of
    the rows it holds, it holds more than `count_ubound` rows (no node with `count_ubound` rows or
    fewer is split), its count is the number of rows it holds, and the stop rule did not apply. -/
theorem build_every_node (hc : Compl α) (c : Cfg α) (m : Nat) (data : List (List α)) (t : Tree α)
    (h : build c m data = some t) {a : Nat} {mid : α} {cnt : Counts} {l r : Tree α} {ds : Nat} {q : List (List α)}
    (hh : Holds t 0 data (.node a mid cnt l r) ds q) :
    a = ds % m ∧ mid = midpoint q a ∧ c.countUbound < q.length ∧ cget cnt 0 = some q.length ∧
      stops c.countUbound (minCutpointSizes c m data) q a = false := by
  have hb := (build_spec c m data t h).holds hh
  cases hb with
  | node h0 hs hl hr =>
    exact ⟨rfl, rfl, (stops_eq_false_iff.1 hs).1, by simp [cget, split_length hc], hs⟩

/-- every leaf of the built tree carries the number of rows that the splits route to it, and it
    is a leaf because the stop rule applied to those rows -/
theorem build_every_leaf (c : Cfg α) (m : Nat) (data : List (List α)) (t : Tree α)
    (h : build c m data = some t) {cnt : Counts} {ds : Nat} {q : List (List α)}
    (hh : Holds t 0 data (.leaf cnt) ds q) :
    cnt = [(0, q.length)] ∧ stops c.countUbound (minCutpointSizes c m data) q (ds % m) = true := by
  have hb := (build_spec c m data t h).holds hh
  cases hb with
  | leaf h0 hs => exact ⟨rfl, hs⟩

/-- the stop rule contains `n ≤ count_ubound`: rows not exceeding the bound are never split -/
theorem stops_of_le (ub : Nat) (mins : List α) (q : List (List α)) (a : Nat) (h : q.length ≤ ub) :
    stops ub mins q a = true := by
  simp [stops, h]

end build

section fill
variable {α : Type} [Inhabited α] [LT α] [DecidableLT α] [LE α] [DecidableLE α]

/-- `fill` never changes the splits -/
theorem fill_structure (id : Nat) (rs : Bool) (pts : List (List α)) (t : Tree α) :
    skeleton (fill id rs pts t) = skeleton t := by
  induction t generalizing pts <;> simp [fill, skeleton, *]

theorem fill_other_ids (id : Nat) (rs : Bool) (pts : List (List α)) (t : Tree α) {j : Nat} (hj : j ≠ id) :
    nodeCounts j (fill id rs pts t) = nodeCounts j t := by
  induction t generalizing pts <;> simp [fill, nodeCounts, cget_cbump_ne _ _ _ _ hj, *]

/-- accumulate / reset, at every node object (pre-order): the new count is the number of sample
    rows routed to the node, plus the previous count unless `reset` is set or there was none -/
theorem fill_counts (hc : Compl α) (id : Nat) (rs : Bool) (pts : List (List α)) (t : Tree α) :
    nodeCounts id (fill id rs pts t) =
      List.zipWith (fun old k => some (if rs then k else match old with | some o => o + k | none => k))
        (nodeCounts id t) (routed t pts) := by
  induction t generalizing pts with
  | nil => rfl
  | leaf c =>
    simp only [fill, nodeCounts, routed, cget_cbump_self, List.zipWith_cons_cons, List.zipWith_nil_left]; rfl
  | node a mid c l r ihl ihr =>
    simp only [fill, nodeCounts, routed, cget_cbump_self, List.zipWith_cons_cons, ihl, ihr, split_length hc]
    rw [List.zipWith_append (by rw [routed_length id])]; rfl

/-- `fill` assigns every point to the leaf whose cell contains it: after an overwriting fill the
    count of leaf `k` is the number of sample rows lying in the cell of leaf `k` -/
theorem fill_leaf_is_cell_count (id : Nat) (rs : Bool) (pts : List (List α)) (t : Tree α)
    (hfresh : rs = true ∨ Absent id t) :
    leafCountsD (fill id rs pts t) id =
      (List.range t.numLeaves).map (fun k => (pts.filter (fun p => inCell p t k)).length) := by
  induction t generalizing pts with
  | nil => rfl
  | leaf c => simp [fill, cget_cbump_fresh hfresh, inCell]
  | node a mid c l r ihl ihr =>
    simp only [fill, leafCountsD_node, ihl _ (hfresh.imp_right (·.2.1)), ihr _ (hfresh.imp_right (·.2.2)),
      numLeaves_node, List.range_add, List.map_append, List.map_map, List.filter_filter]
    -- left leaves: `k < numLeaves l`; right leaves: `numLeaves l + k`
    congr 1 <;> refine List.map_congr_left fun k hk => ?_
    · simp [inCell, List.mem_range.mp hk, Bool.and_comm]
    · simp [inCell, Bool.and_comm]

/-- the cells partition the space: every point lies in the cell of exactly one leaf, the one its
    descent (`> mid` → right, else left) reaches -/
theorem cells_partition (hc : Compl α) {t : Tree α} (hn : t.noNilBelow = true) (p : List α) :
    descend p t < t.numLeaves ∧ ∀ k, k < t.numLeaves → (inCell p t k = true ↔ k = descend p t) :=
  ⟨descend_lt hn p, inCell_iff_descend hc hn p⟩

end fill

section inv
variable {α : Type}

/-- what `build` establishes (`build_inv`) and every `fill` keeps (`fill_inv`): no `None` child, and for
    every id the key is at all node objects with the children-sum rule, or at none -/
def Inv (t : Tree α) : Prop :=
  t.noNilBelow = true ∧ ∀ j, (Present j t ∧ ChildrenSum j t) ∨ Absent j t

theorem Inv.childrenSum {t : Tree α} (h : Inv t) (j : Nat) : ChildrenSum j t :=
  (h.2 j).elim (·.2) (fun ha => (absent_childrenSum j t ha).1)

end inv

section fills
variable {α : Type} [Inhabited α] [LT α] [DecidableLT α] [LE α] [DecidableLE α]

theorem fill_inv (hc : Compl α) (id : Nat) (rs : Bool) (pts : List (List α)) {t : Tree α} (h : Inv t) :
    Inv (fill id rs pts t) := by
  refine ⟨(noNilBelow_fill id rs t pts).trans h.1, fun j => ?_⟩
  by_cases e : j = id
  · subst e
    exact Or.inl ⟨present_or_absent_fill j rs t pts, childrenSum_fill hc j rs t pts h.1 (Or.inr (h.childrenSum j))⟩
  · obtain ⟨_, h2, h3, h4⟩ := fill_other id rs e t pts
    exact (h.2 j).imp (fun ⟨hp, hs⟩ => ⟨h3 hp, h2 hs⟩) h4

/-- conservation for one `fill`: the leaf counts of the filled id add up to the sample size, plus
    the previous total unless reset; the totals of all other ids are unchanged -/
theorem fill_leaf_sum (hc : Compl α) (id : Nat) (rs : Bool) (pts : List (List α)) {t : Tree α} (h : Inv t) (j : Nat) :
    (leafCountsD (fill id rs pts t) j).sum =
      if j = id then (if rs then pts.length else (leafCountsD t id).sum + pts.length)
      else (leafCountsD t j).sum := by
  by_cases e : j = id
  · subst e
    rw [if_pos rfl, leafSum_fill hc j rs t pts h.1]
    cases rs <;> simp
  · rw [if_neg e, leafCountsD_fill_ne id rs e t pts]

/-- one `fill(data, tree_id, reset)` call -/
structure FillOp (α : Type) where
  id : Nat
  reset : Bool
  pts : List (List α)

def runFills (t : Tree α) (ops : List (FillOp α)) : Tree α :=
  ops.foldl (fun t o => fill o.id o.reset o.pts t) t

/-- how many points id `j` must account for after a history of fills, starting from `n0` -/
def expectedTotal (j : Nat) (n0 : Nat) (ops : List (FillOp α)) : Nat :=
  ops.foldl (fun n o => if j = o.id then (if o.reset then o.pts.length else n + o.pts.length) else n) n0

/-- **conservation over every history of fills** (any ids, with or without reset, any samples):
    the invariant is kept and for every id the leaf counts add up to the number of points filled
    since the last reset of that id (plus what was there at the start) -/
theorem fills_conserve (hc : Compl α) (ops : List (FillOp α)) :
    ∀ {t : Tree α}, Inv t →
      Inv (runFills t ops) ∧
      ∀ j, (leafCountsD (runFills t ops) j).sum = expectedTotal j (leafCountsD t j).sum ops := by
  induction ops with
  | nil => intro t h; exact ⟨h, fun _ => rfl⟩
  | cons o os ih =>
    intro t h
    have h1 := fill_inv hc o.id o.reset o.pts h
    obtain ⟨i1, i2⟩ := ih h1
    refine ⟨i1, ?_⟩
    intro j
    simp only [runFills, expectedTotal, List.foldl_cons] at i2 ⊢
    rw [i2 j, fill_leaf_sum hc o.id o.reset o.pts h j]
    congr 1
    by_cases e : j = o.id
    · rw [e]
    · simp [e]

theorem fills_children_sum (hc : Compl α) (ops : List (FillOp α)) {t : Tree α} (h : Inv t) (j : Nat) :
    ChildrenSum j (runFills t ops) :=
  (fills_conserve hc ops h).1.childrenSum j

end fills

section buildFill
variable {α : Type} [Inhabited α] [Add α] [Sub α] [Mul α] [Div α] [LT α] [DecidableLT α]
  [LE α] [DecidableLE α] [NatCast α] [BEq α] [HasTrunc α]

theorem build_inv (hc : Compl α) (c : Cfg α) {m : Nat} (hm : 0 < m) (data : List (List α)) (t : Tree α)
    (h : build c m data = some t) (hn : t.noNilBelow = true) : Inv t := by
  obtain ⟨h1, _, h3⟩ := (build_spec c m data t h).counts hc hm
  refine ⟨hn, fun j => ?_⟩
  by_cases e : j = 0
  · subst e; exact Or.inl ⟨h3, h1⟩
  · exact Or.inr ((build_spec c m data t h).absent e)

/-- filling the build data under another id (or with reset) reproduces the build counts exactly,
    at every node — hence also at the leaves; no assumption on the carrier is needed -/
theorem fill_build_data (c : Cfg α) (m : Nat) (data : List (List α)) (t : Tree α)
    (h : build c m data = some t) (id : Nat) (rs : Bool) (hfresh : rs = true ∨ id ≠ 0) :
    nodeCounts id (fill id rs data t) = nodeCounts 0 t := by
  have hb := build_spec c m data t h
  exact hb.fill_same id rs (hfresh.imp (fun h => h) (fun h => hb.absent h))

end buildFill

section flat
variable {β : Type}

theorem map_eq_of_map_eq₂ {A B C D E : Type} {f : A → C} {f' : B → C} {g : A → D} {g' : B → D} (k : C → D → E)
    {as : List A} {bs : List B} (h1 : as.map f = bs.map f') (h2 : as.map g = bs.map g') :
    as.map (fun a => k (f a) (g a)) = bs.map (fun b => k (f' b) (g' b)) := by
  have : as.map (fun a => (f a, g a)) = bs.map (fun b => (f' b, g' b)) := by
    rw [← List.zip_map', ← List.zip_map', h1, h2]
  have := congrArg (List.map fun p : C × D => k p.1 p.2) this
  rwa [List.map_map, List.map_map] at this

/-- `to_plotly_dataframe` lists every node object exactly once, in pre-order: as many rows as
    nodes, the canonical ids are `0, 1, …, N-1`, row `i` carries the reference count of the
    `i`-th node and (when `tree_id2` is given) its count difference `count₂ - count₁`. -/
theorem flatten_each_node_once (t : Tree β) (id1 : Nat) (id2 : Option Nat) (hp : Present id1 t) :
    (flatten t id1 id2).length = t.numNodes ∧
    (flatten t id1 id2).map (·.idx) = List.range t.numNodes ∧
    (flatten t id1 id2).map (·.cell) = (subtrees t).map (·.rootCount id1) ∧
    (flatten t id1 id2).map (·.diff) = (subtrees t).map (diffOf id1 id2) := by
  have h := flattenAux_spec id1 id2 t hp 0 none 0 none
  rw [List.range_eq_range']
  exact h

/-- every row names its parent and depth correctly: a row is either the root row (number 0, no
    parent, depth 0) or its `parent_idx` is the pre-order number `p` of an internal node at depth
    `dp`, the row's depth is `dp + 1`, and the row's own number is that of `p`'s left child
    (`p + 1`, name `ax a <= …`) or right child (`p + 1 + numNodes left`, name `ax a > …`). -/
theorem flatten_parents (t : Tree β) (id1 : Nat) (id2 : Option Nat) (hp : Present id1 t) :
    ∀ row ∈ flatten t id1 id2,
      (row.idx = 0 ∧ row.parent = none ∧ row.depth = 0 ∧ row.via = none) ∨
      (∃ p a mid c l r dp, row.parent = some p ∧ nodeAt t p = some (Tree.node a mid c l r, dp) ∧
        row.depth = dp + 1 ∧
        ((row.idx = p + 1 ∧ row.via = some (a, false)) ∨ (row.idx = p + 1 + l.numNodes ∧ row.via = some (a, true)))) := by
  intro row h
  rcases flattenAux_parent id1 id2 t hp 0 none 0 none row h with h | ⟨k, a, mid, c, l, r, dp, h1, h3, h4, h5⟩
  · exact Or.inl h
  · simp only [Nat.zero_add] at h1 h4 h5
    exact Or.inr ⟨k, a, mid, c, l, r, dp, h1, h3, h4, h5⟩

variable {α : Type} [Add α] [Mul α] [Div α] [LT α] [DecidableLT α] [LE α] [DecidableLE α]
  [NatCast α] [BEq α] [HasLogExp α]

/-- the Kulldorff statistic of a row is, by definition, the corrected divergence between the
    two-cell distributions (node, rest) of the two trees -/
theorem kss_is_two_cell (ref test refMax testMax : Nat) :
    (kss ref test refMax testMax : α) =
      entropy (distnFromCounts [ref, refMax - ref]) (distnFromCounts [test, testMax - test]) := rfl

/-- in `to_plotly_dataframe` "rest" really is the rest of the sample: when the children-sum
    rule holds for both ids, `ref_max` / `test_max` (column maxima in the code) are the root
    counts, i.e. the sample sizes, so the `kss` of the `i`-th node `s` is
    `KL([n₁(s), N₁ - n₁(s)] ‖ [n₂(s), N₂ - n₂(s)])` with the `+0.5` correction. -/
theorem plotly_kss (t : Tree β) (id1 id2 : Nat) (hp : Present id1 t) (h1 : ChildrenSum id1 t)
    (h2 : ChildrenSum id2 t) (hne : t.numNodes ≠ 0) :
    ∃ rows : List (Row × Option α), plotly t id1 (some id2) none = .ok rows ∧
      rows.map Prod.fst = flatten t id1 (some id2) ∧
      rows.map Prod.snd = (subtrees t).map (fun s => some
        (klCounts [s.rootCount id1, t.rootCount id1 - s.rootCount id1]
                  [s.rootCount id2, t.rootCount id2 - s.rootCount id2])) := by
  obtain ⟨f1, _, f3, f4⟩ := flatten_each_node_once t id1 (some id2) hp
  obtain ⟨rest, hrest⟩ := subtrees_head t hne
  have hne' : (flatten t id1 (some id2)).isEmpty = false := by
    rw [List.isEmpty_eq_false_iff, ← List.length_pos_iff, f1]; omega
  -- test counts of the rows are the id2 counts of the nodes
  have htest : (flatten t id1 (some id2)).map Row.test = (subtrees t).map (·.rootCount id2) := by
    refine (map_eq_of_map_eq₂ (fun (c : Nat) (d : Option Int) => ((d.getD 0) + (c : Int)).toNat) f3 f4).trans ?_
    simp [diffOf]
  -- under the children-sum rule the column maxima are the root counts
  have hmax : ∀ id, ChildrenSum id t → maxNat ((subtrees t).map (·.rootCount id)) = t.rootCount id := fun id h =>
    maxNat_eq (by rw [hrest]; simp) (by
      intro y hy; obtain ⟨s, hs, rfl⟩ := List.mem_map.mp hy; exact rootCount_le_root id t h s hs)
  refine ⟨(flatten t id1 (some id2)).map
    (fun r => (r, some (kss r.cell r.test (t.rootCount id1) (t.rootCount id2)))), ?_, ?_, ?_⟩
  · simp only [plotly, depthFilter, Option.getD_none, ne_eq, not_true_eq_false, and_false, if_false, hne',
      Bool.false_eq_true, f3, htest, hmax _ h1, hmax _ h2]
  · rw [List.map_map]; exact List.map_id _
  · rw [List.map_map]
    exact map_eq_of_map_eq₂ (fun c d => some (klCounts [c, t.rootCount id1 - c] [d, t.rootCount id2 - d])) f3 htest

end flat

section field
variable {K : Type} [Field K] [LinearOrder K] [IsStrictOrderedRing K] [Inhabited K] [BEq K] [HasTrunc K]

theorem split_partition : Compl K := fun _ _ => not_le.symm

/-- **`build` terminates** (within the model's fuel) for every data set and configuration with
    `cutpoint_proportion_lbound ≥ 0` (and a truncation `int()` that maps non-negative numbers to
    non-negative numbers), and the tree has **no `None` child**: when a split happens both halves
    are non-empty and strictly smaller.  (With `Float` rounding this can fail — known finding.) -/
theorem build_terminates (c : Cfg K) (hc : 0 ≤ c.cplb) (htr : ∀ x : K, 0 ≤ x → 0 ≤ HasTrunc.trunc x)
    (m : Nat) (data : List (List K)) :
    ∃ t, build c m data = some t ∧ (data ≠ [] → 0 < m → t.noNilBelow = true) := by
  -- the cut sizes `int(cplb * ptp)` are non-negative
  have hmins : ∀ a, a < m → 0 ≤ (minCutpointSizes c m data).getD a default := by
    intro a ha
    have hlt : a < (minCutpointSizes c m data).length := by simpa [minCutpointSizes] using ha
    rw [← List.getElem_eq_getD (h := hlt) default]
    simp only [minCutpointSizes, List.getElem_map, List.getElem_range]
    exact htr _ (mul_nonneg hc (ptp_nonneg _))
  by_cases hm : m = 0
  · subst hm
    exact ⟨.nil, by simp [build, buildFuel, buildAux], fun _ h => by omega⟩
  obtain ⟨t, ht⟩ := buildAux_isSome c.countUbound _ m hmins (buildFuel m data.length) 0 data
    (Nat.lt_succ_of_le (Nat.le_trans (Nat.le_succ _) (Nat.le_mul_of_pos_left _ (Nat.pos_of_ne_zero hm))))
  exact ⟨t, ht, fun hne hm => (build_spec c m data t ht).noNilBelow hmins hm hne⟩

/-- the split value is the midpoint of the range of the points held: `(lo + hi) / 2` where `lo`
    and `hi` are the least and the greatest coordinate of those points on the split axis -/
theorem mid_is_midpoint (q : List (List K)) (a : Nat) (hq : q ≠ []) :
    ∃ lo hi, lo ∈ col q a ∧ hi ∈ col q a ∧ (∀ z ∈ col q a, lo ≤ z ∧ z ≤ hi) ∧ midpoint q a = (lo + hi) / 2 := by
  refine ⟨minOf (col q a), maxOf (col q a), minOf_mem (col_ne_nil hq a), maxOf_mem (col_ne_nil hq a),
    fun z hz => ⟨minOf_le hz, le_maxOf hz⟩, ?_⟩
  simp only [midpoint_eq, ptp]
  ring

/-- leaf distributions with the `+0.5` correction sum to one -/
theorem distn_sums_to_one (counts : List Nat) (h : counts ≠ []) : sumL (distnFromCounts counts : List K) = 1 :=
  distn_sum_one h

theorem distn_entries (counts : List Nat) :
    (distnFromCounts counts : List K) =
      counts.map (fun (c : Nat) => ((c : K) + 1 / 2) / ((counts.sum : K) + (counts.length : K) / 2)) := by
  have h2 : ((2 : Nat) : K) = 2 := by norm_num
  simp only [distn_eq, denom, half_eq, h2]

end field

end MV.Kdq
