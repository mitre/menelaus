/-
  C17 — kdq-tree detectors (`KdqTreeBatch`, `KdqTreeStreaming`): a smaller `alpha` is stricter.

  The critical value is `np.quantile(bootstrap KLDs, 1 - alpha, method="nearest")`
  (`Model/KdqDetect.lean`: `criticalKld`, `quantileNearest`): the element of rank
  `rint((B-1)·(1-alpha))` of the ascending bootstrap divergences.

  What the rank computation needs of the rounding helper is `RintLaw` (monotone on non-negative
  arguments, the identity on naturals); round-half-to-even satisfies it on every ordered field with a
  floor, so the rank is monotone in the level and in range for levels in `[0, 1]` (numpy raises outside).
  Batch: before the first alarm the two runs differ in the stored critical value only (`BRel`).
  Streaming: the persistence counter is part of the pre-alarm state and depends on the critical value,
  so there is no threshold-free statistics run; what is kept is the simulation `SRel` (all
  fields equal except `critical`, looser ≤ stricter, and `counter`, stricter ≤ looser), by every
  update that does not alarm under the looser setting.

  Carrier: ordered fields `K` (`log` arbitrary: no property of the divergence is used, both runs
  compute the *same* divergences), rounding helper subject to `RintLaw`.  Updates whose tree
  construction runs out of fuel (`none` = Python's `RecursionError`) leave the state alone in the
  total step functions `bStepT` / `sStepT`, so they count as positions without drift (they are the
  same positions in both runs before the first alarm; over an ordered field with `cplb ≥ 0` and a
  truncation that keeps non-negative numbers non-negative there are none, `Props/C08.lean`
  `build_terminates`).
-/
import MenelausVerif.Props.C17
import MenelausVerif.Props.C09Examples
set_option linter.unusedSectionVars false

namespace MV.C17.Kdq
open MV MV.Mono MV.Kdq MV.KdqDet

def isD (d : Drift) : Bool := d == .drift

section order
variable {K : Type} [LinearOrder K]

theorem getD_mono_of_sorted (l : List K) (hl : l.Pairwise (· ≤ ·)) (d : K) {i j : Nat}
    (hij : i ≤ j) (hj : j < l.length) : l.getD i d ≤ l.getD j d :=
  getD_rel_of_pairwise le_refl l hl d hij (Nat.le_sub_one_of_lt hj)

variable [Inhabited K] [Mul K] [NatCast K] [HasRint K]

/-- the rank index `np.quantile(xs, q, method="nearest")` reads -/
def rank (n : Nat) (q : K) : Nat := HasRint.rint (((n - 1 : Nat) : K) * q)

theorem quantileNearest_eq (xs : List K) (q : K) :
    quantileNearest xs q = (sortAsc xs).getD (rank xs.length q) default := rfl

/-- **nearest-rank quantile, at the level of the rank index**: whatever the rounding helper does,
    if it orders the two ranks and the larger one is a position of the sample, the quantiles are
    ordered the same way -/
theorem quantileNearest_mono_of_rank (xs : List K) (q1 q2 : K)
    (hr : rank xs.length q1 ≤ rank xs.length q2) (hlt : rank xs.length q2 < xs.length) :
    quantileNearest xs q1 ≤ quantileNearest xs q2 := by
  rw [quantileNearest_eq, quantileNearest_eq]
  exact getD_mono_of_sorted _ (sortAsc_sorted xs) default hr (by rw [(sortAsc_perm xs).length_eq]; exact hlt)

end order

/-- what the rank computation needs of `np.around(x).astype(intp)` in exact arithmetic -/
structure RintLaw (K : Type) [Field K] [LinearOrder K] [HasRint K] : Prop where
  mono : ∀ x y : K, (0 : K) ≤ x → x ≤ y → HasRint.rint x ≤ HasRint.rint y
  natCast : ∀ n : Nat, HasRint.rint ((n : Nat) : K) = n

section rint
variable {K : Type} [Field K] [LinearOrder K]

/-- round half to even on a non-negative value, written like `rintFloat` (floor, fractional part
    against 1/2, parity of the floor on a tie) -/
def rintHE [FloorRing K] (x : K) : Nat :=
  let f := ⌊x⌋
  if x - f < 1 / 2 then f.toNat
  else if 1 / 2 < x - f then f.toNat + 1
  else if f % 2 = 0 then f.toNat else f.toNat + 1

theorem rintHE_floor [FloorRing K] (x : K) : ⌊x⌋.toNat ≤ rintHE x ∧ rintHE x ≤ ⌊x⌋.toNat + 1 := by
  unfold rintHE; simp only; split
  · omega
  · split
    · omega
    · split <;> omega

theorem rintHE_of_lt [FloorRing K] {x : K} (h : x - ⌊x⌋ < 1 / 2) : rintHE x = ⌊x⌋.toNat :=
  if_pos h

theorem rintHE_of_gt [FloorRing K] {x : K} (h : 1 / 2 < x - ⌊x⌋) : rintHE x = ⌊x⌋.toNat + 1 :=
  (if_neg (not_lt_of_gt h)).trans (if_pos h)

variable [IsStrictOrderedRing K]

theorem rintHE_mono [FloorRing K] (x y : K) (hx : 0 ≤ x) (hxy : x ≤ y) : rintHE x ≤ rintHE y := by
  have hf : ⌊x⌋ ≤ ⌊y⌋ := Int.floor_mono hxy
  have hf0 : 0 ≤ ⌊x⌋ := Int.floor_nonneg.mpr hx
  rcases lt_or_eq_of_le hf with hlt | heq
  · calc rintHE x ≤ ⌊x⌋.toNat + 1 := (rintHE_floor x).2
      _ ≤ ⌊y⌋.toNat := by omega
      _ ≤ rintHE y := (rintHE_floor y).1
  · -- same floor: below the half `x` rounds down, above it `y` rounds up, and otherwise `x = y`
    by_cases h1 : x - ⌊x⌋ < 1 / 2
    · rw [rintHE_of_lt h1, heq]; exact (rintHE_floor y).1
    · by_cases h2 : 1 / 2 < y - ⌊y⌋
      · rw [rintHE_of_gt h2, ← heq]; exact (rintHE_floor x).2
      · have h : y - (⌊y⌋ : K) ≤ x - (⌊x⌋ : K) := (not_lt.1 h2).trans (not_lt.1 h1)
        rw [heq] at h
        rw [le_antisymm hxy ((sub_le_sub_iff_right _).1 h)]

theorem rintHE_natCast [FloorRing K] (n : Nat) : rintHE (n : K) = n := by
  unfold rintHE
  simp

theorem rintHE_law [FloorRing K] : @RintLaw K _ _ ⟨rintHE⟩ :=
  @RintLaw.mk K _ _ ⟨rintHE⟩ rintHE_mono rintHE_natCast

variable [HasRint K]

theorem rank_mono (hr : RintLaw K) (n : Nat) (q1 q2 : K) (h0 : 0 ≤ q1) (h12 : q1 ≤ q2) :
    rank n q1 ≤ rank n q2 := by
  have hn : (0 : K) ≤ ((n - 1 : Nat) : K) := Nat.cast_nonneg _
  exact hr.mono _ _ (mul_nonneg hn h0) (mul_le_mul_of_nonneg_left h12 hn)

theorem rank_lt_length (hr : RintLaw K) (n : Nat) (hn : 0 < n) (q : K) (h0 : 0 ≤ q) (h1 : q ≤ 1) :
    rank n q < n := by
  have hc : (0 : K) ≤ ((n - 1 : Nat) : K) := Nat.cast_nonneg _
  have : rank n q ≤ n - 1 :=
    (hr.mono _ _ (mul_nonneg hc h0) (mul_le_of_le_one_right hc h1)).trans_eq (hr.natCast _)
  omega

variable [Inhabited K]

theorem quantileNearest_mono (hr : RintLaw K) (xs : List K) (q1 q2 : K) (h0 : 0 ≤ q1) (h12 : q1 ≤ q2)
    (h1 : q2 ≤ 1) : quantileNearest xs q1 ≤ quantileNearest xs q2 := by
  cases xs with
  | nil => exact le_of_eq rfl
  | cons x xs =>
    exact quantileNearest_mono_of_rank _ q1 q2 (rank_mono hr _ q1 q2 h0 h12)
      (rank_lt_length hr _ (Nat.succ_pos _) q2 (le_trans h0 h12) h1)

variable [BEq K] [HasLogExp K]

/-- **a smaller `alpha` gives a larger (≥) critical value** (same bootstrap draws) -/
theorem critical_antitone (hr : RintLaw K) (k s : Nat) (draws : List (List Nat)) (strict loose : K)
    (h0 : 0 ≤ strict) (hle : strict ≤ loose) (h1 : loose ≤ 1) :
    criticalKld k s draws loose ≤ criticalKld k s draws strict := by
  unfold criticalKld
  have e : ((1 : Nat) : K) = 1 := Nat.cast_one
  rw [e]
  exact quantileNearest_mono hr _ _ _ (sub_nonneg.2 h1) (sub_le_sub_left hle 1) (sub_le_self 1 h0)

end rint

section crit
variable {K : Type} [LinearOrder K]

/-- the stored critical value of the looser run is at most that of the stricter run -/
def critLe : Option K → Option K → Prop
  | none, none => True
  | some x, some y => x ≤ y
  | _, _ => False

theorem critLe_refl : ∀ a : Option K, critLe a a
  | none => trivial
  | some _ => le_rfl

theorem critLe_getD : ∀ {a b : Option K}, critLe a b → ∀ d : K, a.getD d ≤ b.getD d
  | none, none, _, _ => le_rfl
  | some _, some _, h, _ => h

theorem exceeds_of_critLe [Inhabited K] {a b : Option K} (h : critLe a b) {D : K}
    (g : decide (b.getD default < D) = true) : decide (a.getD default < D) = true :=
  decide_eq_true (lt_of_le_of_lt (critLe_getD h default) (of_decide_eq_true g))

end crit

section batch
variable {K : Type} [Field K] [LinearOrder K] [IsStrictOrderedRing K] [Inhabited K] [BEq K]
  [HasLogExp K] [HasRint K] [HasTrunc K]

/-- what one `update` consumes: number of columns, batch, bootstrap draws (used only by an update
    that builds a reference) -/
abbrev BIn (K : Type) := Nat × List (List K) × List (List Nat)

/-- `update` as a total function: a tree construction that runs out of fuel leaves the state -/
def bStepT (c : BCfg K) (s : BState K) (i : BIn K) : BState K :=
  match bStep c s i.1 i.2.1 i.2.2 with
  | some r => r.1
  | none => s

/-- the two runs before the first alarm: same state except for the stored critical value -/
structure BRel (a b : BState K) : Prop where
  total : a.total = b.total
  since : a.since = b.since
  drift : a.drift = b.drift
  quiet : a.drift ≠ .drift
  tree : a.tree = b.tree
  testDist : a.testDist = b.testDist
  refData : a.refData = b.refData
  crit : critLe a.critical b.critical

theorem bRel_refl (s : BState K) (h : s.drift ≠ .drift) : BRel s s :=
  ⟨rfl, rfl, rfl, h, rfl, rfl, rfl, critLe_refl _⟩

theorem bSetRef_rel (hr : RintLaw K) (cL cS : BCfg K) (hp : cL.part = cS.part) (h0 : 0 ≤ cS.alpha)
    (hle : cS.alpha ≤ cL.alpha) (h1 : cL.alpha ≤ 1) (a b : BState K)
    (ht : a.total = b.total) (hrd : a.refData = b.refData) (m : Nat) (X : List (List K))
    (d : List (List Nat)) :
    (bSetRef cL a m X d = none ∧ bSetRef cS b m X d = none) ∨
    ∃ a' b', bSetRef cL a m X d = some a' ∧ bSetRef cS b m X d = some b' ∧ BRel a' b' := by
  rw [bSetRef_eq, bSetRef_eq, hp]
  cases build cS.part m X with
  | none => exact Or.inl ⟨rfl, rfl⟩
  | some t =>
    exact Or.inr ⟨_, _, rfl, rfl, ht, rfl, rfl, Drift.noConfusion, rfl, rfl, hrd,
      critical_antitone hr _ _ d _ _ h0 hle h1⟩

theorem batch_sim (hr : RintLaw K) (cL cS : BCfg K) (hp : cL.part = cS.part) (h0 : 0 ≤ cS.alpha)
    (hle : cS.alpha ≤ cL.alpha) (h1 : cL.alpha ≤ 1) (a b : BState K) (i : BIn K) (h : BRel a b) :
    (isD (bStepT cS b i).drift = true → isD (bStepT cL a i).drift = true) ∧
    (isD (bStepT cL a i).drift = false → BRel (bStepT cL a i) (bStepT cS b i)) := by
  obtain ⟨m, X, d⟩ := i
  have hqb : b.drift ≠ .drift := h.drift ▸ h.quiet
  unfold bStepT
  dsimp only
  cases htr : a.tree with
  | none =>
    -- the batch is installed as the reference by both, or by neither
    rw [bStep_install cL a m X d h.quiet htr, bStep_install cS b m X d hqb (h.tree ▸ htr)]
    rcases bSetRef_rel hr cL cS hp h0 hle h1 (bTick a) (bTick b) (congrArg (· + 1) h.total) h.refData
        m X d with ⟨e1, e2⟩ | ⟨a', b', e1, e2, hrel⟩
    · rw [e1, e2]
      exact sim_of_quiet hqb h
    · rw [e1, e2]
      exact sim_of_quiet (hrel.drift ▸ hrel.quiet) hrel
  | some t =>
    rw [bStep_test cL a m X d t h.quiet htr, bStep_test cS b m X d t hqb (h.tree ▸ htr)]
    dsimp only
    cases hL : decide (a.critical.getD default < divergence (fill testId true X t)) with
    | true => exact ⟨fun _ => rfl, fun g => Bool.noConfusion g⟩
    | false =>
      -- the stricter run does not exceed either
      have hS : decide (b.critical.getD default < divergence (fill testId true X t)) = false :=
        Bool.eq_false_iff.2 fun g => Bool.noConfusion ((exceeds_of_critLe h.crit g).symm.trans hL)
      rw [hS]
      exact sim_of_quiet hqb
        { h with total := congrArg (· + 1) h.total, since := congrArg (· + 1) h.since, tree := rfl, testDist := rfl }

/-- **KdqTreeBatch: a smaller `alpha` never makes the first drift earlier** — from every pair of
    states that are related as the two runs are before an alarm (`BRel`: e.g. the same fresh state,
    or the two states after `set_reference` of the same batch with the same draws), for every
    sequence of batches and bootstrap draws. -/
theorem kdqBatch_first_drift_mono_from (hr : RintLaw K) (c : BCfg K) (loose strict : K) (h0 : 0 ≤ strict)
    (hle : strict ≤ loose) (h1 : loose ≤ 1) (a b : BState K) (h : BRel a b) (xs : List (BIn K)) :
    NoLater (firstIdx (driftTrace (bStepT { c with alpha := loose }) (fun s => isD s.drift) a xs))
      (firstIdx (driftTrace (bStepT { c with alpha := strict }) (fun s => isD s.drift) b xs)) :=
  sim_first_drift_mono_same _ _ _ _ BRel
    (fun a b i h => batch_sim hr { c with alpha := loose } { c with alpha := strict } rfl h0 hle h1 a b i h)
    xs a b h

/-- … in particular from the fresh detector (whose first update installs the reference) -/
theorem kdqBatch_first_drift_mono (hr : RintLaw K) (c : BCfg K) (loose strict : K) (h0 : 0 ≤ strict)
    (hle : strict ≤ loose) (h1 : loose ≤ 1) (xs : List (BIn K)) :
    NoLater (firstIdx (driftTrace (bStepT { c with alpha := loose }) (fun s => isD s.drift) bInit xs))
      (firstIdx (driftTrace (bStepT { c with alpha := strict }) (fun s => isD s.drift) bInit xs)) :=
  kdqBatch_first_drift_mono_from hr c loose strict h0 hle h1 bInit bInit (bRel_refl _ nofun) xs

end batch

section srel
variable {K : Type} [LinearOrder K]

/-- **the simulation**: the run under the looser setting (`a`) against the run under the stricter one
    (`b`) while neither has alarmed — every field equal except the stored critical value
    (looser ≤ stricter) and the persistence counter (stricter ≤ looser) -/
structure SRel (a b : SState K) : Prop where
  total : a.total = b.total
  since : a.since = b.since
  drift : a.drift = b.drift
  quiet : a.drift ≠ .drift
  refData : a.refData = b.refData
  testSize : a.testSize = b.testSize
  tree : a.tree = b.tree
  testDist : a.testDist = b.testDist
  crit : critLe a.critical b.critical
  counter : b.counter ≤ a.counter

theorem sRel_refl (s : SState K) (h : s.drift ≠ .drift) : SRel s s :=
  ⟨rfl, rfl, rfl, h, rfl, rfl, rfl, rfl, critLe_refl _, le_refl _⟩

theorem SRel.tick {a b : SState K} (h : SRel a b) : SRel (sTick a) (sTick b) :=
  { h with total := congrArg (· + 1) h.total, since := congrArg (· + 1) h.since }

/-- an evaluation in the two runs, the tests abstracted: `eA`, `eB` "the divergence exceeds the critical
    value" (looser, stricter run), `aL`, `aS` "the counter then exceeds the persistence bound" -/
theorem eval_sim {p q : SState K} (h : SRel p q) (tr : Option (Kdq.Tree K)) (dv : Option K)
    {eA eB aL aS : Bool} (hex : eB = true → eA = true) (hal : aS = true → aL = true) :
    (isD (if eB && aS then Drift.drift else q.drift) = true →
      isD (if eA && aL then Drift.drift else p.drift) = true) ∧
    (isD (if eA && aL then Drift.drift else p.drift) = false →
      SRel
        { p with tree := tr, testSize := p.testSize + 1, testDist := dv,
                 counter := if eA then p.counter + 1 else 0,
                 drift := if eA && aL then Drift.drift else p.drift }
        { q with tree := tr, testSize := q.testSize + 1, testDist := dv,
                 counter := if eB then q.counter + 1 else 0,
                 drift := if eB && aS then Drift.drift else q.drift }) := by
  have hq : q.drift ≠ .drift := h.drift ▸ h.quiet
  cases hL : eA && aL with
  | true => exact ⟨fun _ => rfl, fun g => Bool.noConfusion g⟩
  | false =>
    -- the looser run does not alarm, hence neither does the stricter one
    have hS : (eB && aS) = false := Bool.eq_false_iff.2 fun g =>
      Bool.eq_false_iff.1 hL (by rw [Bool.and_eq_true] at g ⊢; exact ⟨hex g.1, hal g.2⟩)
    rw [hS]
    refine sim_of_quiet hq { h with testSize := congrArg (· + 1) h.testSize, tree := rfl, testDist := rfl, counter := ?_ }
    -- only the counters move, and the stricter run's stays behind: it exceeds only if the looser run does
    cases eB with
    | false => exact Nat.zero_le _
    | true => rw [hex rfl]; exact Nat.succ_le_succ h.counter

end srel

section stream
variable {K : Type} [Field K] [LinearOrder K] [IsStrictOrderedRing K] [Inhabited K] [BEq K]
  [HasLogExp K] [HasRint K] [HasTrunc K]

/-- what one `update` consumes: the sample and the bootstrap draws (used only by the update that
    completes the reference window) -/
abbrev SIn (K : Type) := List K × List (List Nat)

/-- `update` as a total function: a tree construction that runs out of fuel leaves the state -/
def sStepT (c : SCfg K) (s : SState K) (i : SIn K) : SState K :=
  match sStep c s i.1 i.2 with
  | some r => r.1
  | none => s

/-- the persistence rule is monotone in the counter and antitone in the persistence factor -/
theorem alarms_mono (cL cS : SCfg K) (hw : cL.window = cS.window) (hp : cL.persistence ≤ cS.persistence)
    {n m : Nat} (hnm : n ≤ m) (h : alarms cS n = true) : alarms cL m = true := by
  simp only [alarms, decide_eq_true_eq] at h ⊢
  rw [hw]
  have hw0 : (0 : K) ≤ (cS.window : K) := Nat.cast_nonneg _
  have hc : (n : K) ≤ (m : K) := Nat.cast_le.mpr hnm
  calc cL.persistence * (cS.window : K) ≤ cS.persistence * (cS.window : K) :=
        mul_le_mul_of_nonneg_right hp hw0
    _ < (n : K) := h
    _ ≤ (m : K) := hc

/-- **one streaming update under the two settings**: an alarm under the stricter setting forces an
    alarm under the looser one, and unless the looser run alarms the simulation is kept -/
theorem stream_sim (hr : RintLaw K) (cL cS : SCfg K) (hw : cL.window = cS.window) (hp : cL.part = cS.part)
    (hpers : cL.persistence ≤ cS.persistence) (h0 : 0 ≤ cS.alpha) (hle : cS.alpha ≤ cL.alpha)
    (h1 : cL.alpha ≤ 1) (a b : SState K) (i : SIn K) (h : SRel a b) :
    (isD (sStepT cS b i).drift = true → isD (sStepT cL a i).drift = true) ∧
    (isD (sStepT cL a i).drift = false → SRel (sStepT cL a i) (sStepT cS b i)) := by
  obtain ⟨x, d⟩ := i
  have hqb : b.drift ≠ .drift := h.drift ▸ h.quiet
  unfold sStepT
  -- neither run is in drift, so both evaluate the counted states; those are related like `a` and `b`
  rw [sStep_quiet cL x d h.quiet, sStep_quiet cS x d hqb]
  have hab := h
  replace h := h.tick
  generalize sTick a = p at h ⊢
  generalize sTick b = q at h ⊢
  have hq : q.drift ≠ .drift := h.drift ▸ h.quiet
  cases htr : p.tree with
  | none =>
    have htb : q.tree = none := h.tree ▸ htr
    by_cases hlen : p.refData.length + 1 = cS.window
    · -- the reference window is complete: both build the tree, or neither can
      rw [sEvaluate_built cL p x d htr (hlen.trans hw.symm), sEvaluate_built cS q x d htb (h.refData ▸ hlen),
        hp, hw, ← h.refData]
      cases build cS.part x.length (p.refData ++ [x]) with
      | none => exact sim_of_quiet hqb hab
      | some t =>
        exact sim_of_quiet nofun ⟨h.total, rfl, rfl, nofun, rfl, rfl, rfl, rfl,
          critical_antitone hr _ _ d _ _ h0 hle h1, le_refl _⟩
    · rw [sEvaluate_building cL p x d htr (fun g => hlen (g.trans hw)),
        sEvaluate_building cS q x d htb (h.refData ▸ hlen)]
      exact sim_of_quiet hq { h with refData := congrArg (· ++ [x]) h.refData }
  | some t =>
    have htb : q.tree = some t := h.tree ▸ htr
    by_cases hsz : cS.window ≤ p.testSize + 1
    · rw [sEvaluate_eval cL p x d t htr (hw ▸ hsz), sEvaluate_eval cS q x d t htb (h.testSize ▸ hsz)]
      -- the looser run's counter is ahead and its persistence bound is lower
      exact eval_sim h _ _ (exceeds_of_critLe h.crit) (alarms_mono cL cS hw hpers (Nat.succ_le_succ h.counter))
    · have hsz' : p.testSize + 1 < cS.window := Nat.lt_of_not_le hsz
      rw [sEvaluate_waiting cL p x d t htr (hw ▸ hsz'), sEvaluate_waiting cS q x d t htb (h.testSize ▸ hsz')]
      exact sim_of_quiet hq { h with testSize := congrArg (· + 1) h.testSize, tree := rfl }

/-- **KdqTreeStreaming: a smaller `alpha` and/or a larger `persistence` never make the first drift
    earlier** — two configurations with the same window and partitioner settings, from every pair of
    `SRel`-related states, for every stream and bootstrap draws. -/
theorem kdqStream_first_drift_mono_cfg (hr : RintLaw K) (cL cS : SCfg K) (hw : cL.window = cS.window)
    (hp : cL.part = cS.part) (hpers : cL.persistence ≤ cS.persistence) (h0 : 0 ≤ cS.alpha)
    (hle : cS.alpha ≤ cL.alpha) (h1 : cL.alpha ≤ 1) (a b : SState K) (h : SRel a b) (xs : List (SIn K)) :
    NoLater (firstIdx (driftTrace (sStepT cL) (fun s => isD s.drift) a xs))
      (firstIdx (driftTrace (sStepT cS) (fun s => isD s.drift) b xs)) :=
  sim_first_drift_mono_same _ _ _ _ SRel
    (fun a b i h => stream_sim hr cL cS hw hp hpers h0 hle h1 a b i h) xs a b h

/-- **KdqTreeStreaming: a smaller `alpha` never makes the first drift earlier** (fresh detector,
    every stream, same draws) -/
theorem kdqStream_first_drift_mono (hr : RintLaw K) (c : SCfg K) (loose strict : K) (h0 : 0 ≤ strict)
    (hle : strict ≤ loose) (h1 : loose ≤ 1) (xs : List (SIn K)) :
    NoLater (firstIdx (driftTrace (sStepT { c with alpha := loose }) (fun s => isD s.drift) sInit xs))
      (firstIdx (driftTrace (sStepT { c with alpha := strict }) (fun s => isD s.drift) sInit xs)) :=
  kdqStream_first_drift_mono_cfg hr { c with alpha := loose } { c with alpha := strict } rfl rfl
    (le_refl _) h0 hle h1 sInit sInit
    (sRel_refl _ nofun) xs

end stream

/-! Carrier `ℚ`, the surrogate `log` and the half-even `rint` of `Props/C09Examples.lean`.
  Reference {0, 1} (two leaves), three bootstrap draws with divergences 0, 16/5, 4/9: the critical
  value is 4/9 for `alpha = 1/2` (rank 1) and 16/5 for `alpha = 0` (rank 2).  Then samples / batches in
  the left leaf only: the divergence grows 4/5, 9/7, 16/9, 25/11, 36/13, 49/15, … -/
section examples

/-- the `ℚ` instance of `Props/C09Examples.lean` is the half-even rounding, hence lawful -/
theorem exRint : RintLaw ℚ := rintHE_law

def exDraws : List (List Nat) := [[0, 1, 0, 1], [0, 0, 1, 1], [0, 0, 0, 1]]

example : criticalKld 2 2 exDraws (1 / 2 : ℚ) = 4 / 9 ∧ criticalKld 2 2 exDraws (0 : ℚ) = 16 / 5 := by
  decide +kernel
example : rank 3 (1 / 2 : ℚ) = 1 ∧ rank 3 (1 : ℚ) = 2 ∧ rank 4 (1 / 2 : ℚ) = 2 ∧ rank 6 (1 / 2 : ℚ) = 2 := by
  decide +kernel

def exSC : SCfg ℚ := { window := 2, persistence := 1, alpha := 0, part := { countUbound := 1, cplb := 0 } }
def exSIn : List (SIn ℚ) := [([0], []), ([1], exDraws)] ++ List.replicate 9 ([0], [])

/-- streaming, alarm when more than `1·2` evaluations in a row exceed: under `alpha = 1/2` the 4th–6th
    updates exceed (first drift at position 5), under `alpha = 0` only the 9th–11th do (position 10) -/
example : firstIdx (driftTrace (sStepT { exSC with alpha := 1 / 2 }) (fun s => isD s.drift) sInit exSIn) = some 5 ∧
    firstIdx (driftTrace (sStepT { exSC with alpha := 0 }) (fun s => isD s.drift) sInit exSIn) = some 10 := by
  decide +kernel
/-- before either alarms the counters differ (2 against 0 after five updates): the statistics run is
    *not* threshold-free, the simulation `SRel` is what is kept -/
example : ((exSIn.take 5).foldl (sStepT { exSC with alpha := 1 / 2 }) sInit).counter = 2 ∧
    ((exSIn.take 5).foldl (sStepT { exSC with alpha := 0 }) sInit).counter = 0 ∧
    ((exSIn.take 5).foldl (sStepT { exSC with alpha := 1 / 2 }) sInit).drift = .none := by
  decide +kernel
example (l : List (SIn ℚ)) :
    NoLater (firstIdx (driftTrace (sStepT { exSC with alpha := 1 / 2 }) (fun s => isD s.drift) sInit l))
      (firstIdx (driftTrace (sStepT { exSC with alpha := 0 }) (fun s => isD s.drift) sInit l)) :=
  kdqStream_first_drift_mono exRint exSC (1 / 2) 0 (le_refl _) (by norm_num) (by norm_num) l

def exBC : BCfg ℚ := { alpha := 0, part := { countUbound := 1, cplb := 0 } }
def exBIn : List (BIn ℚ) :=
  [(1, [[0], [1]], exDraws), (1, [[0], [1]], []), (1, [[0], [0]], []), (1, [[0], [0], [0]], []),
   (1, List.replicate 7 [0], [])]

/-- batch: the third batch (divergence 4/5) drifts under `alpha = 1/2`, only the fifth (49/15) under
    `alpha = 0` -/
example : firstIdx (driftTrace (bStepT { exBC with alpha := 1 / 2 }) (fun s => isD s.drift) bInit exBIn) = some 2 ∧
    firstIdx (driftTrace (bStepT { exBC with alpha := 0 }) (fun s => isD s.drift) bInit exBIn) = some 4 := by
  decide +kernel
example (l : List (BIn ℚ)) :
    NoLater (firstIdx (driftTrace (bStepT { exBC with alpha := 1 / 2 }) (fun s => isD s.drift) bInit l))
      (firstIdx (driftTrace (bStepT { exBC with alpha := 0 }) (fun s => isD s.drift) bInit l)) :=
  kdqBatch_first_drift_mono exRint exBC (1 / 2) 0 (le_refl _) (by norm_num) (by norm_num) l

end examples

end MV.C17.Kdq
