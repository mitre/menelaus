/-
  C17, non-vacuity of `Props/C17Models.lean`: concrete configurations and histories over `ℚ` (with a
  non-negative stand-in for `sqrt`) for CUSUM, DDM, EDDM, STEPD and NNDVI on which the looser setting alarms
  strictly earlier, and on which the looser warning parameter warns strictly more often.
-/
import MenelausVerif.Props.C17Models
import Mathlib.Algebra.Order.Field.Rat
import Mathlib.Tactic.NormNum.Inv
import Mathlib.Tactic.NormNum.Ineq

namespace MV.C17
open MV MV.Mono

namespace Examples
local instance exSqrt : HasSqrt ℚ := ⟨fun x => if x < 0 then 0 else x⟩

theorem exSqrt_nonneg : ∀ x : ℚ, 0 ≤ sqrt x := by
  intro x
  show 0 ≤ (if x < 0 then 0 else x)
  split
  · exact le_refl _
  · rename_i h; exact not_lt.1 h

def fd {σ ι : Type} (step : σ → ι → σ) (drift : σ → Drift) (s : σ) (xs : List ι) : Option Nat :=
  firstIdx (driftTrace step (fun s => isD (drift s)) s xs)

-- CUSUM, known target 0 and sd 1, burn-in 1, one-sided: `s_h = 1, 2, 3, …` on the stream 1, 1, 1, …
def cc : MV.Cusum.Cfg ℚ :=
  { target0 := some 0, sd0 := some 1, burnIn := 1, delta := 0, threshold := 0, dir := .positive }
example : fd (Cusum.stepS { cc with threshold := 1 }) (·.drift) (MV.Cusum.init cc) [1, 1, 1, 1, 1] = some 1 ∧
    fd (Cusum.stepS { cc with threshold := 3 }) (·.drift) (MV.Cusum.init cc) [1, 1, 1, 1, 1] = some 3 := by
  decide +kernel
example : NoLater (some 1) (some 3) := (by decide : (1 : Nat) ≤ 3)
example (l : List ℚ) : True := by
  have _h := Cusum.cusum_first_drift_mono cc 1 3 (by norm_num) l
  trivial

def cd : MV.DDM.Cfg ℚ := ⟨2, 1 / 2, 2⟩
def xd : List Bool := [true, false, false, false, true, true, true, true]
example : fd (MV.DDM.step { cd with driftScale := 1 }) (·.drift) MV.DDM.init xd = some 1 ∧
    fd (MV.DDM.step { cd with driftScale := 2 }) (·.drift) MV.DDM.init xd = some 4 ∧
    fd (MV.DDM.step { cd with driftScale := 3 }) (·.drift) MV.DDM.init xd = some 5 := by decide +kernel
example (l : List Bool) : True := by
  have _h := DDM.ddm_first_drift_mono exSqrt_nonneg cd 2 3 (by norm_num) l
  trivial
/-- the looser `warning_scale = 1/2` warns after 2, 3, 4 updates, the stricter `3/2` does not;
    both report drift after 5 and after 7 updates -/
example : (MV.DDM.run { cd with warningScale := 1 / 2 } (xd.take 3)).drift = .warning ∧
    (MV.DDM.run { cd with warningScale := 3 / 2 } (xd.take 3)).drift = .none ∧
    (MV.DDM.run { cd with warningScale := 1 / 2 } (xd.take 5)).drift = .drift ∧
    (MV.DDM.run { cd with warningScale := 3 / 2 } (xd.take 5)).drift = .drift ∧
    (MV.DDM.run { cd with warningScale := 1 / 2 } (xd.take 7)).drift = .drift := by decide +kernel
example (l : List Bool) : True := by
  have _h := DDM.ddm_warning_only exSqrt_nonneg cd (3 / 2) (1 / 2) (by norm_num) l
  trivial

def ce : MV.EDDM.Cfg ℚ := ⟨2, 9 / 10, 1 / 2⟩
def xe : List Bool := [false, false, false, true, false, false, true, true, true, true, true, true, true]
example : fd (MV.EDDM.step { ce with driftThresh := 7 / 10 }) (·.drift) MV.EDDM.init xe = some 9 ∧
    fd (MV.EDDM.step { ce with driftThresh := 1 / 2 }) (·.drift) MV.EDDM.init xe = some 10 ∧
    fd (MV.EDDM.step { ce with driftThresh := 1 / 4 }) (·.drift) MV.EDDM.init xe = none := by decide +kernel
example (l : List Bool) : True := by
  have _h := EDDM.eddm_first_drift_mono ce (7 / 10) (1 / 2) (by norm_num) l
  trivial
/-- the looser `warning_thresh = 9/10` already warns after 9 updates, the stricter `6/10` only after 10 -/
example : (MV.EDDM.run { ce with warningThresh := 9 / 10 } (xe.take 9)).drift = .warning ∧
    (MV.EDDM.run { ce with warningThresh := 6 / 10 } (xe.take 9)).drift = .none ∧
    (MV.EDDM.run { ce with warningThresh := 6 / 10 } (xe.take 10)).drift = .warning ∧
    (MV.EDDM.run { ce with warningThresh := 9 / 10 } (xe.take 11)).drift = .drift ∧
    (MV.EDDM.run { ce with warningThresh := 6 / 10 } (xe.take 11)).drift = .drift := by decide +kernel
example (l : List Bool) : True := by
  have _h := EDDM.eddm_warning_only ce (6 / 10) (9 / 10) (by norm_num) l
  trivial

def cs : MV.STEPD.Cfg ℚ := ⟨2, 1 / 4, 3 / 2⟩
def xs : List Bool := [false, false, false, false, false, true, true]
example : fd (MV.STEPD.step { cs with zDrift := 1 / 2 }) (·.drift) MV.STEPD.init xs = some 5 ∧
    fd (MV.STEPD.step { cs with zDrift := 3 / 2 }) (·.drift) MV.STEPD.init xs = some 6 ∧
    fd (MV.STEPD.step { cs with zDrift := 10 }) (·.drift) MV.STEPD.init xs = none := by decide +kernel
example (l : List Bool) : NoLater (fd (MV.STEPD.step { cs with zDrift := 1 / 2 }) (·.drift) MV.STEPD.init l)
    (fd (MV.STEPD.step { cs with zDrift := 3 / 2 }) (·.drift) MV.STEPD.init l) :=
  STEPD.stepd_first_drift_mono cs (1 / 2) (3 / 2) (by norm_num) l
example : (MV.STEPD.run { cs with zWarn := 1 / 4 } (xs.take 6)).drift = .warning ∧
    (MV.STEPD.run { cs with zWarn := 1 / 4 } (xs.take 7)).drift = .drift ∧
    (MV.STEPD.run { cs with zWarn := 5 / 4 } (xs.take 6)).drift = .none ∧
    (MV.STEPD.run { cs with zWarn := 5 / 4 } (xs.take 7)).drift = .drift := by decide +kernel
example (l : List Bool) : True := by
  have _h := STEPD.stepd_warning_only cs (5 / 4) (1 / 4) (by norm_num) l
  trivial

-- NNDVI: reference {0, 1}, batch {2, 3}, `k = 2`: distance 1, re-assignment distances 0 and 1,
-- so mean 1/2 and (stand-in) std 1/4: drift iff `z / 4 + 1 / 2 < 1`
def cn : MV.NNDVI.Cfg ℚ := { k := 2, samplingTimes := 2, z := 1 }
def adjN : List (List Bool) :=
  [[true, true, false, false], [true, true, false, false], [false, false, true, true], [false, false, true, true]]
def sN : MV.NNDVI.State ℚ := MV.NNDVI.setReference MV.NNDVI.init [[0], [1]]
def inN : NNDVI.In ℚ := ([[2], [3]], adjN, [[0, 1, 2, 3], [0, 2, 1, 3]])
example : fd (NNDVI.stepS ({ cn with z := 1 } : MV.NNDVI.Cfg ℚ)) (·.drift) sN [inN, inN] = some 0 ∧
    fd (NNDVI.stepS ({ cn with z := 3 } : MV.NNDVI.Cfg ℚ)) (·.drift) sN [inN, inN] = none := by decide +kernel
example (l : List (NNDVI.In ℚ)) : True := by
  have _h := NNDVI.nndvi_first_drift_mono exSqrt_nonneg cn 1 3 (by norm_num) sN (by decide) l
  trivial

end Examples

end MV.C17
