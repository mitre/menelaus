/-
  C19 (reference statistics) — "MD3 summarises its reference batch of N rows by the mean and
  standard deviation, over k cross-validation folds, of the margin density and of the
  classifier's accuracy".

  Model: Model/MD3Ref.lean (`refStats`, and MD3 run with fold bit lists: `initF`/`stepF`/`runF`).
  Oracle inputs that remain: which rows are in which fold (KFold, shuffled, random_state 42),
  and per test sample the margin bit and the correctness bit under the re-fitted classifier.

  For every carrier (no arithmetic law, so also the executed `Float` instance): the summary reads only
  sizes and counts of the folds; the fuel of `pairwiseSum` plays no role; and the connection — MD3 run with
  fold bit lists is the oracle-form model of Model/MD3.lean fed `refStats folds`, call by call, so every
  theorem of Props/C19.lean transfers.  Over fields: numpy's pairwise summation is the sum; over ordered
  fields, what the five statistics are in exact arithmetic (`sqrt` enters only through `HasSqrt`, about
  which nothing is assumed unless a hypothesis says so).

  Inputs the real code rejects (KFold raises ValueError): k < 2 and k > number of rows; hence no fold
  is empty.  The hypotheses `folds ≠ []`, `xs ≠ []`, `1 ≤ totalLen folds` below state that domain; they
  are not logically needed (a field's `x / 0 = 0` keeps the statements true without them).  The
  equal-size hypothesis of `refStats_pooled_of_equal_folds` is needed (`fold_mean_ne_pooled`).
-/
import MenelausVerif.Model.MD3Ref
import MenelausVerif.Props.C19
import MenelausVerif.Lemmas.Carrier
import Mathlib.Algebra.Order.BigOperators.Group.List
namespace MV.MD3
open MV

theorem ratio_map {α : Type} [Div α] [NatCast α] (p : Sample → Bool) (f : Fold) :
    (ratio (f.map p) : α) = (((f.map p).count true : Nat) : α) / ((f.length : Nat) : α) := by
  rw [ratio, List.length_map]

theorem ratio_perm {α : Type} [Div α] [NatCast α] {l l' : List Bool} (hp : l.Perm l') : (ratio l : α) = ratio l' := by
  rw [ratio, ratio, hp.count_eq, hp.length_eq]

theorem pairwiseSum_of_le_block {α : Type} [Add α] [NatCast α] (fuel : Nat) (xs : List α) (h : xs.length ≤ pwBlock) :
    pairwiseSum fuel xs = blockSum xs := by
  cases fuel with
  | zero => rfl
  | succ n => rw [pairwiseSum, if_pos h]

section anyCarrier
set_option linter.unusedSectionVars false
variable {α : Type} [Add α] [Sub α] [Mul α] [Div α] [Neg α] [LT α] [DecidableLT α] [NatCast α]
  [HasSqrt α]

/-- **len**: the modelled length is the sum of the fold sizes … -/
theorem refStats_len (folds : List Fold) :
    (refStats folds : Ref α).len = (folds.map List.length).sum := rfl

/-- … which is the total number of samples -/
theorem totalLen_eq_flatten (folds : List Fold) : totalLen folds = folds.flatten.length := by
  simp [totalLen, List.length_flatten]

theorem refStats_fields (folds : List Fold) :
    (refStats folds : Ref α).md = npMean (folds.map foldMd) ∧
    (refStats folds : Ref α).mdStd = sqrt (mdVar folds) ∧
    (refStats folds : Ref α).acc = npMean (folds.map foldAcc) ∧
    (refStats folds : Ref α).accStd = sqrt (accVar folds) ∧
    (refStats folds : Ref α).len = folds.flatten.length :=
  ⟨rfl, rfl, rfl, rfl, by rw [refStats_len]; exact totalLen_eq_flatten folds⟩

theorem map_eq_of_perm_within {β : Type} (g : Fold → β) (hg : ∀ f f', f.Perm f' → g f = g f')
    {folds folds' : List Fold} (h : List.Forall₂ List.Perm folds folds') : folds.map g = folds'.map g :=
  -- `Forall₂ (· = ·)` is `=`; it holds of the two mapped lists because `hg` turns `Perm` into `=`
  List.forall₂_eq_eq_eq ▸ List.forall₂_map_left_iff.2 (List.forall₂_map_right_iff.2 (h.imp hg))

/-- the summary does not depend on the order of the samples inside a fold (the order of
    `test_index`), only on the folds' sizes and counts -/
theorem refStats_perm_within (folds folds' : List Fold) (h : List.Forall₂ List.Perm folds folds') :
    (refStats folds : Ref α) = refStats folds' := by
  simp only [refStats, foldMds, foldAccs, totalLen,
    map_eq_of_perm_within (foldMd (α := α)) (fun _ _ hp => ratio_perm (hp.map _)) h,
    map_eq_of_perm_within (foldAcc (α := α)) (fun _ _ hp => ratio_perm (hp.map _)) h,
    map_eq_of_perm_within List.length (fun _ _ hp => hp.length_eq) h]

/-- the `fuel` of `pairwiseSum` only bounds the recursion depth: every amount of fuel that is at
    least the length of the vector gives the same additions in the same order (each recursive call
    is on a strictly shorter vector), so `npSum`'s `fuel = length` never runs out and the split
    branch of numpy's routine is followed all the way down to blocks of at most 128 elements -/
theorem pairwiseSum_fuel_irrelevant (f1 : Nat) : ∀ (f2 : Nat) (xs : List α),
    xs.length ≤ f1 → xs.length ≤ f2 → pairwiseSum f1 xs = pairwiseSum f2 xs := by
  induction f1 with
  | zero =>
    intro f2 xs h1 _
    rw [pairwiseSum_of_le_block 0 xs (by omega), pairwiseSum_of_le_block f2 xs (by omega)]
  | succ n ih =>
    intro f2 xs h1 h2
    by_cases hb : xs.length ≤ pwBlock
    · rw [pairwiseSum_of_le_block _ xs hb, pairwiseSum_of_le_block _ xs hb]
    · -- a vector longer than a block leaves both sides fuel to split; the halves are shorter
      obtain ⟨m, rfl⟩ : ∃ m, f2 = m + 1 := ⟨f2 - 1, by unfold pwBlock at hb; omega⟩
      have hs : 1 ≤ pwSplit xs.length ∧ pwSplit xs.length < xs.length := by
        unfold pwSplit; unfold pwBlock at hb; omega
      rw [pairwiseSum, if_neg hb, pairwiseSum, if_neg hb,
        ih m (xs.take _) (by rw [List.length_take]; omega) (by rw [List.length_take]; omega),
        ih m (xs.drop _) (by rw [List.length_drop]; omega) (by rw [List.length_drop]; omega)]

theorem initF_eq_init (c : Cfg α) (folds : List Fold) : initF c folds = init c (refStats folds) := rfl

theorem stepF_eq_step (c : Cfg α) (s : State α) (op : OpF) : stepF c s op = step c s op.toOp := by
  cases op <;> rfl

theorem runF_eq_run (c : Cfg α) (s : State α) (ops : List OpF) :
    runF c s ops = run c s (ops.map OpF.toOp) := by
  simp only [runF, run, List.foldl_map, stepF_eq_step]

/-- **connection**: the MD3 model that computes its reference summaries from fold bit lists
    equals, on every history, the oracle-form model of Model/MD3.lean fed the modelled statistics
    `refStats folds` (initially and at every label call).  Every theorem of Props/C19.lean about
    `run c (init c r) ops` therefore holds for the modelled statistics. -/
theorem refStats_connection (c : Cfg α) (folds0 : List Fold) (ops : List OpF) :
    runF c (initF c folds0) ops = run c (init c (refStats folds0)) (ops.map OpF.toOp) := by
  rw [runF_eq_run, initF_eq_init]

/-- transferred: `inv_reachable` -/
theorem inv_reachableF (c : Cfg α) (folds0 : List Fold)
    (h : 0 < c.oracleLen.getD (totalLen folds0)) (ops : List OpF) :
    Inv (runF c (initF c folds0) ops) := by
  rw [refStats_connection]
  exact inv_reachable c (refStats folds0) h _

/-- transferred: `oracle_round`, with the adopted reference now *computed*: any history with exactly
    N−1 well-formed labelled samples followed by one more whose accumulated batch has k-fold bits
    `folds` ends with reference `refStats folds`, forgetting factor `forgetting (Σ fold sizes)` and
    the margin density restarted at the fold-mean margin density. -/
theorem oracle_roundF (c : Cfg α) (s : State α) (ops : List OpF) (cols : List Nat) (b : Bool)
    (folds : List Fold) (hw : s.waiting = true) (hl : s.labels = [])
    (hn : (labelBits c (ops.map OpF.toOp)).length + 1 = s.oracleReq)
    (hc : sameColumns cols c.refCols = true) :
    runF c s (ops ++ [.label 1 cols b folds]) =
      { s with drift := if confirmTest c s.ref (b :: (labelBits c (ops.map OpF.toOp)).reverse) = true
                          then .drift else .none,
               waiting := false, labels := [], ref := refStats folds,
               lam := forgetting (totalLen folds), md := npMean (foldMds folds) } := by
  obtain ⟨_, ⟨_, _, hop⟩, hrun, _⟩ :=
    oracle_round c s (ops.map OpF.toOp) (OpF.label 1 cols b folds).toOp b hw hl hn (if_pos ⟨rfl, hc⟩)
  cases hop
  rw [runF_eq_run, List.map_append, List.map_singleton, hrun]
  rfl

theorem stepF_ref (c : Cfg α) (s : State α) (op : OpF) :
    ((stepF c s op).1.ref = s.ref ∧ (stepF c s op).1.lam = s.lam) ∨
    ∃ rows cols b folds, op = .label rows cols b folds ∧
      (stepF c s op).1.ref = refStats folds ∧
      (stepF c s op).1.lam = forgetting (totalLen folds) ∧
      (stepF c s op).1.md = npMean (foldMds folds) := by
  rw [stepF_eq_step]
  rcases step_ref c s op.toOp with h | ⟨rows, cols, b, nr, hop, h⟩
  · exact .inl h
  · cases op with
    | update rows sig => cases hop
    | label rows' cols' b' folds => cases hop; exact .inr ⟨_, _, _, folds, rfl, h⟩

/-- **the reference is always a modelled summary, and the forgetting factor follows its length**:
    after any history, the detector's reference is `refStats` of the initial folds or of the folds
    carried by one of the history's label calls, and `forgetting_factor` is `forgetting` of the
    number of samples in *those* folds (see `forgetting_modelled` for the field reading (len−1)/len). -/
theorem ref_is_modelled (c : Cfg α) (folds0 : List Fold) (ops : List OpF) :
    ∃ folds, (folds = folds0 ∨ ∃ rows cols b, OpF.label rows cols b folds ∈ ops) ∧
      (runF c (initF c folds0) ops).ref = refStats folds ∧
      (runF c (initF c folds0) ops).lam = forgetting (totalLen folds) := by
  induction ops using List.reverseRecOn with
  | nil => exact ⟨folds0, .inl rfl, rfl, rfl⟩
  | append_singleton ops op ih =>
    have hr : runF c (initF c folds0) (ops ++ [op]) = (stepF c (runF c (initF c folds0) ops) op).1 := by
      simp [runF, List.foldl_append]
    rw [hr]
    -- the last call either keeps what the earlier history left, or is the label call that set it
    rcases stepF_ref c (runF c (initF c folds0) ops) op with ⟨e1, e2⟩ | ⟨rows, cols, b, folds, rfl, e1, e2, _⟩
    · obtain ⟨folds, hf, r1, r2⟩ := ih
      exact ⟨folds, hf.imp_right fun ⟨rows, cols, b, hm⟩ => ⟨rows, cols, b, List.mem_append_left _ hm⟩,
        e1.trans r1, e2.trans r2⟩
    · exact ⟨folds, .inr ⟨rows, cols, b, List.mem_append_right _ List.mem_cons_self⟩, e1, e2⟩

end anyCarrier

section field
variable {K : Type} [Field K]

theorem addSeq_eq (r : K) (xs : List K) : addSeq r xs = r + xs.sum := foldl_add_eq_sum r xs

theorem lanesGo_eq (r : Lanes K) (xs : List K) :
    (lanesGo r xs).1.combine + (lanesGo r xs).2.sum = r.combine + xs.sum := by
  fun_induction lanesGo r xs with
  | case1 r a0 a1 a2 a3 a4 a5 a6 a7 rest ih =>
    rw [ih]; simp only [Lanes.combine, List.sum_cons]; ring
  | case2 r rest h => rfl

theorem blockSum_eq (xs : List K) : blockSum xs = xs.sum := by
  fun_cases blockSum xs with
  | case1 a0 a1 a2 a3 a4 a5 a6 a7 rest p =>
    rw [addSeq_eq, lanesGo_eq]; simp only [Lanes.combine, List.sum_cons]; ring
  | case2 xs h => rw [addSeq_eq]; simp [zero]

theorem pairwiseSum_eq (fuel : Nat) (xs : List K) : pairwiseSum fuel xs = xs.sum := by
  induction fuel generalizing xs with
  | zero => exact blockSum_eq xs
  | succ n ih =>
    unfold pairwiseSum
    split
    · exact blockSum_eq xs
    · rw [ih, ih, List.sum_take_add_sum_drop]

theorem npMean_eq (xs : List K) : npMean xs = xs.sum / (xs.length : K) := by
  rw [npMean, npSum, pairwiseSum_eq]

theorem npVar_eq (xs : List K) :
    npVar xs = (xs.map (fun x => (x - npMean xs) ^ 2)).sum / (xs.length : K) := by
  show npSum (xs.map (fun x => (x - npMean xs) * (x - npMean xs))) / _ = _
  rw [npSum, pairwiseSum_eq]
  simp only [pow_two]

theorem npMean_perm {xs ys : List K} (h : xs.Perm ys) : npMean xs = npMean ys := by
  rw [npMean_eq, npMean_eq, h.sum_eq, h.length_eq]

theorem npVar_perm {xs ys : List K} (h : xs.Perm ys) : npVar xs = npVar ys := by
  rw [npVar_eq, npVar_eq, npMean_perm h, (h.map _).sum_eq, h.length_eq]

end field

/-- number of in-margin test samples of a fold -/
def inCount (f : Fold) : Nat := (f.map Prod.fst).count true
/-- number of correctly classified test samples of a fold -/
def okCount (f : Fold) : Nat := (f.map Prod.snd).count true

theorem inCount_eq_countP (f : Fold) : inCount f = f.countP (fun s => s.1) := by
  simp [inCount, List.count_eq_countP, List.countP_map, Function.comp_def]

theorem okCount_eq_countP (f : Fold) : okCount f = f.countP (fun s => s.2) := by
  simp [okCount, List.count_eq_countP, List.countP_map, Function.comp_def]

section orderedField
set_option linter.unusedSectionVars false
variable {K : Type} [Field K] [LinearOrder K] [IsStrictOrderedRing K]

/-- `np.add.reduce` (8 lanes, blocks of 128, recursive halving) adds up to the plain sum;
    whatever the `fuel` (so the bound on the recursion depth plays no role in exact arithmetic) -/
theorem npSum_eq_sum (xs : List K) : npSum xs = xs.sum := pairwiseSum_eq _ xs

theorem npVar_mul_length (xs : List K) (h : xs ≠ []) :
    npVar xs * (xs.length : K) = (xs.map (fun x => (x - npMean xs) ^ 2)).sum := by
  rw [npVar_eq, div_mul_cancel₀ _ (Nat.cast_ne_zero.2 (mt List.length_eq_zero_iff.1 h))]

theorem npVar_nonneg (xs : List K) : 0 ≤ npVar xs := by
  rw [npVar_eq]
  refine div_nonneg (List.sum_nonneg fun x hx => ?_) (Nat.cast_nonneg _)
  obtain ⟨y, _, rfl⟩ := List.mem_map.1 hx
  exact sq_nonneg _

theorem npMean_unit (xs : List K) (h : ∀ x ∈ xs, 0 ≤ x ∧ x ≤ 1) :
    0 ≤ npMean xs ∧ npMean xs ≤ 1 := by
  have h1 : xs.sum ≤ (xs.length : K) := by
    rw [← nsmul_one]; exact List.sum_le_card_nsmul xs 1 fun x hx => (h x hx).2
  rw [npMean_eq]
  exact ⟨div_nonneg (List.sum_nonneg fun x hx => (h x hx).1) (Nat.cast_nonneg _),
    div_le_one_of_le₀ h1 (Nat.cast_nonneg _)⟩

theorem ratio_unit (bits : List Bool) : 0 ≤ (ratio bits : K) ∧ (ratio bits : K) ≤ 1 := by
  have h0 : (0 : K) ≤ (bits.length : K) := Nat.cast_nonneg _
  exact ⟨div_nonneg (Nat.cast_nonneg _) h0, div_le_one_of_le₀ (Nat.cast_le.2 List.count_le_length) h0⟩

/- `md` and `acc` are the same statistic of the two bits of a sample: each fact is proved once for a
bit `p : Sample → Bool` and read off at `Prod.fst` (in the margin) and `Prod.snd` (classified
correctly); `foldMds`, `foldAccs`, `inCount`, `okCount`, `mdVar`, `accVar` unfold to these forms. -/

theorem npMean_ratios (p : Sample → Bool) (folds : List Fold) :
    npMean (folds.map fun f => (ratio (f.map p) : K)) =
      (folds.map fun f => (((f.map p).count true : Nat) : K) / (f.length : K)).sum / (folds.length : K) := by
  rw [npMean_eq, List.length_map]
  simp only [ratio_map]

theorem npVar_ratios_mul_k (p : Sample → Bool) (folds : List Fold) (h : folds ≠ []) :
    npVar (folds.map fun f => (ratio (f.map p) : K)) * (folds.length : K) =
      (folds.map fun f => ((((f.map p).count true : Nat) : K) / (f.length : K) -
        npMean (folds.map fun f => (ratio (f.map p) : K))) ^ 2).sum := by
  have := npVar_mul_length (folds.map fun f => (ratio (f.map p) : K)) (by simpa using h)
  rw [List.length_map] at this
  rw [this, List.map_map]
  simp only [Function.comp_def, ratio_map]

theorem npMean_ratios_unit (p : Sample → Bool) (folds : List Fold) :
    0 ≤ npMean (folds.map fun f => (ratio (f.map p) : K)) ∧
      npMean (folds.map fun f => (ratio (f.map p) : K)) ≤ 1 := by
  apply npMean_unit
  intro x hx
  obtain ⟨f, _, rfl⟩ := List.mem_map.1 hx
  exact ratio_unit _

theorem equal_folds_sum (p : Sample → Bool) (m : Nat) (folds : List Fold)
    (h : ∀ f ∈ folds, f.length = m) :
    (folds.map (fun f => (ratio (f.map p) : K))).sum =
      (((folds.flatten.map p).count true : Nat) : K) / (m : K) ∧
    folds.flatten.length = folds.length * m := by
  induction folds with
  | nil => simp
  | cons f t ih =>
    obtain ⟨h1, h2⟩ := ih (fun g hg => h g (List.mem_cons_of_mem _ hg))
    have hf : f.length = m := h f List.mem_cons_self
    constructor
    · rw [List.map_cons, List.sum_cons, h1, List.flatten_cons, List.map_append, List.count_append,
        Nat.cast_add, add_div]
      simp [ratio, hf]
    · simp only [List.flatten_cons, List.length_append, h2, hf, List.length_cons]; ring

theorem npMean_ratios_pooled (p : Sample → Bool) (m : Nat) (folds : List Fold)
    (h : ∀ f ∈ folds, f.length = m) :
    npMean (folds.map fun f => (ratio (f.map p) : K)) =
      (((folds.flatten.map p).count true : Nat) : K) / ((totalLen folds : Nat) : K) := by
  obtain ⟨hs, hl⟩ := equal_folds_sum (K := K) p m folds h
  rw [npMean_eq, List.length_map, hs, totalLen_eq_flatten, hl, Nat.cast_mul, div_div, mul_comm]

variable [HasSqrt K]

/-- **md is the arithmetic mean over the folds of (in-margin count / fold size)** -/
theorem refStats_md (folds : List Fold) :
    (refStats folds : Ref K).md =
      (folds.map (fun f => (inCount f : K) / (f.length : K))).sum / (folds.length : K) :=
  npMean_ratios Prod.fst folds

/-- **acc is the arithmetic mean over the folds of (correct count / fold size)** -/
theorem refStats_acc (folds : List Fold) :
    (refStats folds : Ref K).acc =
      (folds.map (fun f => (okCount f : K) / (f.length : K))).sum / (folds.length : K) :=
  npMean_ratios Prod.snd folds

/-- **md_std, without the square root**: `md_std = sqrt (mdVar folds)` (`refStats_fields`), and the
    radicand times k is the sum over the folds of the squared deviation of the fold's margin
    density from `md` (population variance: divisor k, not k−1) -/
theorem mdVar_mul_k (folds : List Fold) (h : folds ≠ []) :
    (mdVar folds : K) * (folds.length : K) =
      (folds.map (fun f => ((inCount f : K) / (f.length : K) - (refStats folds : Ref K).md) ^ 2)).sum :=
  npVar_ratios_mul_k Prod.fst folds h

/-- **acc_std, without the square root** -/
theorem accVar_mul_k (folds : List Fold) (h : folds ≠ []) :
    (accVar folds : K) * (folds.length : K) =
      (folds.map (fun f => ((okCount f : K) / (f.length : K) - (refStats folds : Ref K).acc) ^ 2)).sum :=
  npVar_ratios_mul_k Prod.snd folds h

/-- the radicands are non-negative (so a genuine square root is applied inside its domain) -/
theorem radicands_nonneg (folds : List Fold) : 0 ≤ (mdVar folds : K) ∧ 0 ≤ (accVar folds : K) :=
  ⟨npVar_nonneg _, npVar_nonneg _⟩

/-- **md_std² · k = Σ (md_fold − md)²** and the same for the accuracy, for every carrier whose
    `sqrt` squares back on non-negative arguments (`Real.sqrt` does: example below) -/
theorem std_sq_mul_k (hs : ∀ x : K, 0 ≤ x → sqrt x * sqrt x = x) (folds : List Fold) (h : folds ≠ []) :
    (refStats folds : Ref K).mdStd * (refStats folds : Ref K).mdStd * (folds.length : K) =
      (folds.map (fun f => ((inCount f : K) / (f.length : K) - (refStats folds : Ref K).md) ^ 2)).sum ∧
    (refStats folds : Ref K).accStd * (refStats folds : Ref K).accStd * (folds.length : K) =
      (folds.map (fun f => ((okCount f : K) / (f.length : K) - (refStats folds : Ref K).acc) ^ 2)).sum := by
  have h1 : (refStats folds : Ref K).mdStd = sqrt (mdVar folds) := rfl
  have h2 : (refStats folds : Ref K).accStd = sqrt (accVar folds) := rfl
  rw [h1, h2, hs _ (radicands_nonneg folds).1, hs _ (radicands_nonneg folds).2]
  exact ⟨mdVar_mul_k folds h, accVar_mul_k folds h⟩

/-- **0 ≤ md ≤ 1 and 0 ≤ acc ≤ 1** -/
theorem refStats_unit (folds : List Fold) :
    (0 ≤ (refStats folds : Ref K).md ∧ (refStats folds : Ref K).md ≤ 1) ∧
    (0 ≤ (refStats folds : Ref K).acc ∧ (refStats folds : Ref K).acc ≤ 1) :=
  ⟨npMean_ratios_unit Prod.fst folds, npMean_ratios_unit Prod.snd folds⟩

/-- in exact arithmetic the order in which `KFold.split` yields the folds is immaterial (at `Float`
    it shows in the last bits through the order of the additions, which is why the model keeps it) -/
theorem refStats_perm_folds (folds folds' : List Fold) (h : folds.Perm folds') :
    (refStats folds : Ref K) = refStats folds' := by
  have h1 := h.map (foldMd (α := K))
  have h2 := h.map (foldAcc (α := K))
  have h3 : totalLen folds = totalLen folds' := (h.map List.length).sum_eq
  simp only [refStats, npStd, foldMds, foldAccs, npMean_perm h1, npMean_perm h2, npVar_perm h1,
    npVar_perm h2, h3]

/-- **equal-size folds ⇒ fold mean = pooled ratio**: when all k folds have the same size, `md` is
    the in-margin count of the whole batch over N, and `acc` the correct count over N -/
theorem refStats_pooled_of_equal_folds (folds : List Fold) (m : Nat)
    (h : ∀ f ∈ folds, f.length = m) :
    (refStats folds : Ref K).md = (inCount folds.flatten : K) / ((refStats folds : Ref K).len : K) ∧
    (refStats folds : Ref K).acc = (okCount folds.flatten : K) / ((refStats folds : Ref K).len : K) :=
  ⟨npMean_ratios_pooled Prod.fst m folds h, npMean_ratios_pooled Prod.snd m folds h⟩

/-- **forgetting factor = (len − 1)/len with the modelled len**, initially … -/
theorem initF_forgetting (c : Cfg K) (folds : List Fold) (h : 1 ≤ totalLen folds) :
    (initF c folds).lam = ((totalLen folds : K) - 1) / (totalLen folds : K) ∧
    (initF c folds).ref.len = totalLen folds ∧ (initF c folds).md = (refStats folds : Ref K).md :=
  ⟨forgetting_eq _ h, rfl, rfl⟩

/-- … and after any history: the reference is the modelled summary of some folds (the initial
    ones or those of a label call of the history) and λ = (N − 1)/N for the number N of samples in
    those folds -/
theorem forgetting_modelled (c : Cfg K) (folds0 : List Fold) (ops : List OpF) :
    ∃ folds, (folds = folds0 ∨ ∃ rows cols b, OpF.label rows cols b folds ∈ ops) ∧
      (runF c (initF c folds0) ops).ref = refStats folds ∧
      (1 ≤ totalLen folds →
        (runF c (initF c folds0) ops).lam = ((totalLen folds : K) - 1) / (totalLen folds : K)) := by
  obtain ⟨folds, hf, h1, h2⟩ := ref_is_modelled c folds0 ops
  exact ⟨folds, hf, h1, fun h => by rw [h2]; exact forgetting_eq _ h⟩

end orderedField

end MV.MD3
