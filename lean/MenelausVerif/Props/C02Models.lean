/-
  C02 (continued) — the clean-slate twin theorems for DDM, EDDM, STEPD, PageHinkley, CUSUM and NNDVI
  (after a drift and after `set_reference`), in the shape described in `Props/C02.lean`: after any
  pending drift and any non-empty continuation the running detector is in the state of a freshly
  constructed one (plus the documented carry-over) fed only the continuation — drift state,
  since-reset counter and every statistic equal, `total_samples` shifted by the number of samples seen
  before and the indices in `retraining_recs` shifted by the same amount (`s.recs = shiftRecs off t.recs`).

  DDM, EDDM, STEPD and PageHinkley have one shape: the relation `SameUpTo`, `core_sameUpTo`, the
  instance `laws` of `Twin.Laws`, and the twin theorems read off it; what is said of them at DDM holds
  for the other three.  (PageHinkley's `update` also returns the `to_dataframe()` row, so its
  `step_sameUpTo`, `first_after_drift` and the rows of `twin_history` speak of the pair, beside `laws`.)
  `twin_epochs` states the second drift and re-applies for later ones: the twin being an ordinary
  run, its clauses are instances of `twin_history`.

  PageHinkley, CUSUM: `Props/C04.lean` has the same fact without the counter (`SameEpoch` / `EpochRel`,
  `after_drift_fresh`: each decision depends on the current epoch only); here `total_samples` (CUSUM:
  and `_stream`) is added, and `SameUpTo` / `TwinRel` is the relation to extend for a new fact about a
  detector after a drift.  Both sides rest on the frame equations of `Lemmas/SeqSteps.lean`.

  Carry-over: none (DDM, EDDM, STEPD, PageHinkley); CUSUM: `target` / `sd_hat` = mean / population
  standard deviation of the last `burn_in` observations before the drift (and no older observation
  is read: `Cusum.carry_epoch_only`); NNDVI: the reference is the drifted batch.
-/
import MenelausVerif.Props.C02
import MenelausVerif.Props.C04
import MenelausVerif.Lemmas.ErrSteps
import MenelausVerif.Lemmas.NNDVIStep
set_option linter.unusedSectionVars false

namespace MV.Twin

/-- index shift of one side of `retraining_recs` -/
def shiftOpt (off : Nat) : Option Nat → Option Nat
  | none => none
  | some k => some (k + off)

/-- `retraining_recs` of the twin, moved to the running detector's sample numbering -/
def shiftRecs (off : Nat) (r : Recs) : Recs := (shiftOpt off r.1, shiftOpt off r.2)

@[simp] theorem shiftRecs_empty (off : Nat) : shiftRecs off Recs.empty = Recs.empty := rfl

/-- the DDM / EDDM bookkeeping commutes with the shift -/
theorem incRecsFirst_shift (st : Drift) (k off : Nat) (r : Recs) :
    incRecsFirst st (k + off) (shiftRecs off r) = shiftRecs off (incRecsFirst st k r) := by
  obtain ⟨a, b⟩ := r
  cases st <;> cases a <;> rfl

/-- the STEPD bookkeeping commutes with the shift -/
theorem incRecsRun_shift (k off : Nat) (r : Recs) :
    incRecsRun (k + off) (shiftRecs off r) = shiftRecs off (incRecsRun k r) := by
  obtain ⟨a, b⟩ := r
  cases a with
  | none => rfl
  | some a =>
    cases b with
    | none => rfl
    | some b => exact congrArg (fun n => (some (a + off), some n)) (Nat.add_right_comm b off 1)

end MV.Twin

namespace MV.DDM
open MV MV.Twin
section anyCarrier
variable {α : Type} [Add α] [Sub α] [Mul α] [Div α] [LE α] [DecidableLE α] [NatCast α] [HasSqrt α]

/-- running state `s` equals fresh state `t` up to the offset of `total_samples` and of the indices
    held in `retraining_recs` -/
def SameUpTo (off : Nat) (s t : State α) : Prop :=
  s.total = t.total + off ∧ s.since = t.since ∧ s.drift = t.drift ∧ s.rate = t.rate ∧
  s.std = t.std ∧ s.mins = t.mins ∧ s.recs = shiftRecs off t.recs

theorem core_sameUpTo (c : Cfg α) (off : Nat) (s t : State α) (e : Bool) (h : SameUpTo off s t) :
    SameUpTo off (core c s e) (core c t e) := by
  obtain ⟨h1, h2, h3, h4, h5, h6, h7⟩ := h
  rw [core_eq c s e, core_eq c t e]
  unfold nflag nmins nstd nrate
  rw [h1, h2, h3, h4, h5, h6, h7]
  refine ⟨Nat.add_right_comm .., rfl, rfl, rfl, rfl, rfl, ?_⟩
  -- `recs`: kept below the threshold, else the bookkeeping, which commutes with the shift
  show _ = shiftRecs off _
  rw [apply_ite (shiftRecs off), incRecsFirst_shift]

theorem laws (c : Cfg α) : Laws State.drift State.total reset (core c) init (SameUpTo (α := α)) where
  drift_eq h := h.2.2.1
  reset_rel h := ⟨h.1, rfl, rfl, rfl, rfl, rfl, rfl⟩
  core_rel e h := core_sameUpTo c _ _ _ e h
  reset_init _ := ⟨(Nat.zero_add _).symm, rfl, rfl, rfl, rfl, rfl, rfl⟩
  init_drift := nofun
  run_total xs := (ddm_epoch c xs).total

theorem step_sameUpTo (c : Cfg α) (off : Nat) (s t : State α) (e : Bool) (h : SameUpTo off s t) :
    SameUpTo off (step c s e) (step c t e) :=
  (laws c).step_rel e h

theorem first_after_drift (c : Cfg α) (s : State α) (e : Bool) (h : s.drift = .drift) :
    SameUpTo s.total (step c s e) (step c init e) :=
  (laws c).first_rel e h

/-- **DDM twin theorem** (state form).  After any state with a pending drift, for every non-empty
    continuation the running detector equals a fresh detector fed only the continuation: drift state,
    since-reset counter, error rate, std, stored minima; `total_samples` and the indices in
    `retraining_recs` are shifted by the number of samples seen before. -/
theorem twin (c : Cfg α) (s : State α) (h : s.drift = .drift) (y : Bool) (ys : List Bool) :
    SameUpTo s.total ((y :: ys).foldl (step c) s) (run c (y :: ys)) :=
  (laws c).twin h y ys

/-- **DDM twin theorem** (history form): every history `xs` that ends in a reported drift, every
    non-empty continuation. -/
theorem twin_history (c : Cfg α) (xs : List Bool) (h : (run c xs).drift = .drift) (y : Bool)
    (ys : List Bool) : SameUpTo xs.length (run c (xs ++ y :: ys)) (run c (y :: ys)) :=
  (laws c).history xs h y ys

/-- the property's "position by position": `twin_history` at every non-empty prefix of a continuation -/
theorem twin_positions (c : Cfg α) (xs ys : List Bool) (h : (run c xs).drift = .drift) :
    ∀ k, 1 ≤ k → k ≤ ys.length →
      SameUpTo xs.length (run c (xs ++ ys.take k)) (run c (ys.take k)) :=
  (laws c).positions xs h ys

/-- **Second drift** (re-apply for later ones).  If the continuation `ys` ends in a drift again, the
    twin reports it too, and after it the running detector, the first twin and a second fresh twin all agree (each up
    to its own offset).  Every clause is an instance of `twin_history`: the twin is an ordinary run. -/
theorem twin_epochs (c : Cfg α) (xs : List Bool) (h : (run c xs).drift = .drift) (y : Bool)
    (ys : List Bool) (h2 : (run c (xs ++ y :: ys)).drift = .drift) (z : Bool) (zs : List Bool) :
    (run c (y :: ys)).drift = .drift ∧
    SameUpTo xs.length (run c (xs ++ (y :: ys) ++ z :: zs)) (run c ((y :: ys) ++ z :: zs)) ∧
    SameUpTo (xs.length + (y :: ys).length) (run c (xs ++ (y :: ys) ++ z :: zs)) (run c (z :: zs)) ∧
    SameUpTo (y :: ys).length (run c ((y :: ys) ++ z :: zs)) (run c (z :: zs)) :=
  (laws c).epochs xs h y ys h2 z zs

end anyCarrier

section examples
local instance : HasSqrt ℚ := ⟨fun x => x⟩
/-- non-vacuity: a history ending in a drift, and a continuation ending in a second drift (the
    hypotheses of `twin`, `twin_history`, `twin_epochs` are satisfiable) -/
example : (run (α := ℚ) ⟨2, 1/2, 2⟩ [true, false, false, false, true]).drift = .drift ∧
    (run (α := ℚ) ⟨2, 1/2, 2⟩ ([true, false, false, false, true] ++ [true, false, false, false, true])).drift
      = .drift := by
  decide +kernel
end examples

end MV.DDM

namespace MV.EDDM
open MV MV.Twin
section anyCarrier
variable {α : Type} [Add α] [Sub α] [Mul α] [Div α] [LT α] [DecidableLT α] [LE α] [DecidableLE α]
  [NatCast α] [HasSqrt α]

/-- running state `s` equals fresh state `t` up to the offset of `total_samples` and of the indices
    held in `retraining_recs` (the index of the latest error is epoch-relative, hence equal) -/
def SameUpTo (off : Nat) (s t : State α) : Prop :=
  s.total = t.total + off ∧ s.since = t.since ∧ s.drift = t.drift ∧ s.nErrors = t.nErrors ∧
  s.idxCurr = t.idxCurr ∧ s.distMean = t.distMean ∧ s.distStd = t.distStd ∧ s.maxNum = t.maxNum ∧
  s.recs = shiftRecs off t.recs

theorem core_sameUpTo (c : Cfg α) (off : Nat) (s t : State α) (e : Bool) (h : SameUpTo off s t) :
    SameUpTo off (core c s e) (core c t e) := by
  obtain ⟨h1, h2, h3, h4, h5, h6, h7, h8, h9⟩ := h
  have ht : s.total + 1 = t.total + 1 + off := by rw [h1]; exact Nat.add_right_comm ..
  cases e with
  | false =>
    rw [core_correct_eq, core_correct_eq]
    exact ⟨ht, congrArg (· + 1) h2, h3, h4, h5, h6, h7, h8, h9⟩
  | true =>
    rw [core_error_eq c s, core_error_eq c t]
    unfold ratio nmax nstd nmean ndist
    rw [h1, h2, h3, h4, h5, h6, h7, h8, h9]
    refine ⟨Nat.add_right_comm .., rfl, rfl, rfl, rfl, rfl, rfl, rfl, ?_⟩
    show _ = shiftRecs off _
    rw [apply_ite (shiftRecs off), incRecsFirst_shift]

theorem laws (c : Cfg α) : Laws State.drift State.total reset (core c) init (SameUpTo (α := α)) where
  drift_eq h := h.2.2.1
  reset_rel h := ⟨h.1, rfl, rfl, rfl, rfl, rfl, rfl, rfl, rfl⟩
  core_rel e h := core_sameUpTo c _ _ _ e h
  reset_init _ := ⟨(Nat.zero_add _).symm, rfl, rfl, rfl, rfl, rfl, rfl, rfl, rfl⟩
  init_drift := nofun
  run_total xs := (eddm_epoch c xs).total

theorem step_sameUpTo (c : Cfg α) (off : Nat) (s t : State α) (e : Bool) (h : SameUpTo off s t) :
    SameUpTo off (step c s e) (step c t e) :=
  (laws c).step_rel e h

theorem first_after_drift (c : Cfg α) (s : State α) (e : Bool) (h : s.drift = .drift) :
    SameUpTo s.total (step c s e) (step c init e) :=
  (laws c).first_rel e h

/-- **EDDM twin theorem** (state form).  After any state with a pending drift, for every non-empty
    continuation the running detector equals a fresh detector fed only the continuation: drift state,
    since-reset counter, number of errors, index of the latest error, mean / std of the distances
    between errors, the maximum of `mean + 2·std`; `total_samples` and the indices in
    `retraining_recs` are shifted by the number of samples seen before. -/
theorem twin (c : Cfg α) (s : State α) (h : s.drift = .drift) (y : Bool) (ys : List Bool) :
    SameUpTo s.total ((y :: ys).foldl (step c) s) (run c (y :: ys)) :=
  (laws c).twin h y ys

theorem twin_history (c : Cfg α) (xs : List Bool) (h : (run c xs).drift = .drift) (y : Bool)
    (ys : List Bool) : SameUpTo xs.length (run c (xs ++ y :: ys)) (run c (y :: ys)) :=
  (laws c).history xs h y ys

theorem twin_positions (c : Cfg α) (xs ys : List Bool) (h : (run c xs).drift = .drift) :
    ∀ k, 1 ≤ k → k ≤ ys.length →
      SameUpTo xs.length (run c (xs ++ ys.take k)) (run c (ys.take k)) :=
  (laws c).positions xs h ys

theorem twin_epochs (c : Cfg α) (xs : List Bool) (h : (run c xs).drift = .drift) (y : Bool)
    (ys : List Bool) (h2 : (run c (xs ++ y :: ys)).drift = .drift) (z : Bool) (zs : List Bool) :
    (run c (y :: ys)).drift = .drift ∧
    SameUpTo xs.length (run c (xs ++ (y :: ys) ++ z :: zs)) (run c ((y :: ys) ++ z :: zs)) ∧
    SameUpTo (xs.length + (y :: ys).length) (run c (xs ++ (y :: ys) ++ z :: zs)) (run c (z :: zs)) ∧
    SameUpTo (y :: ys).length (run c ((y :: ys) ++ z :: zs)) (run c (z :: zs)) :=
  (laws c).epochs xs h y ys h2 z zs

end anyCarrier

section examples
local instance : HasSqrt ℚ := ⟨fun x => x⟩
example :
    (run (α := ℚ) ⟨2, 9/10, 1/2⟩ [false, false, false, true, false, false, true, true, true, true, true]).drift
      = .drift ∧
    (run (α := ℚ) ⟨2, 9/10, 1/2⟩ ([false, false, false, true, false, false, true, true, true, true, true] ++
      [false, false, false, true, false, false, true, true, true, true, true])).drift = .drift := by
  decide +kernel
end examples

end MV.EDDM

namespace MV.STEPD
open MV MV.Twin

/-- as for DDM; the window and the two counters of correct predictions belong to the epoch, hence
    are equal -/
def SameUpTo (off : Nat) (s t : State) : Prop :=
  s.total = t.total + off ∧ s.since = t.since ∧ s.drift = t.drift ∧ s.sIn = t.sIn ∧
  s.rPast = t.rPast ∧ s.win = t.win ∧ s.recs = shiftRecs off t.recs

theorem SameUpTo.eq {off : Nat} {s t : State} (h : SameUpTo off s t) :
    s = { t with total := t.total + off, recs := shiftRecs off t.recs } := by
  obtain ⟨s1, s2, s3, s4, s5, s6, s7⟩ := s
  obtain ⟨h1, h2, h3, h4, h5, h6, h7⟩ := h
  dsimp only at h1 h2 h3 h4 h5 h6 h7
  rw [h1, h2, h3, h4, h5, h6, h7]

theorem push_sameUpTo (w off : Nat) (s t : State) (ok : Bool) (h : SameUpTo off s t) :
    SameUpTo off (push w s ok) (push w t ok) := by
  obtain ⟨p1, -, p3, p4⟩ := push_fields w t ok
  rw [h.eq, push_frame_total w t ok _ t.drift]
  exact ⟨by rw [p1]; exact Nat.add_right_comm .., rfl, p3.symm, rfl, rfl, rfl, by rw [p4]⟩

section anyCarrier
variable {α : Type} [Add α] [Sub α] [Mul α] [Div α] [Neg α] [LT α] [DecidableLT α] [NatCast α] [HasSqrt α]

/-- the test reads the epoch counters and the window only -/
theorem decide3_sameUpTo (c : Cfg α) (off : Nat) (s t : State) (h : SameUpTo off s t) :
    decide3 c s = decide3 c t := by
  rw [h.eq]
  rfl

theorem core_sameUpTo (c : Cfg α) (off : Nat) (s t : State) (e : Bool) (h : SameUpTo off s t) :
    SameUpTo off (core c s e) (core c t e) := by
  have hp := push_sameUpTo c.window off s t (!e) h
  by_cases hc : 2 * c.window ≤ t.since + 1
  · rw [core_tested_eq c s e (h.2.1 ▸ hc), core_tested_eq c t e hc, decide3_sameUpTo c off _ _ hp]
    obtain ⟨p1, p2, -, p4, p5, p6, p7⟩ := hp
    refine ⟨p1, p2, rfl, p4, p5, p6, ?_⟩
    show (if _ then _ else incRecsRun s.total _) = shiftRecs off (if _ then _ else incRecsRun t.total _)
    split
    · rfl
    · rw [h.1, p7, incRecsRun_shift]
  · rw [core_untested_eq c s e (h.2.1 ▸ Nat.lt_of_not_le hc), core_untested_eq c t e (Nat.lt_of_not_le hc)]
    exact hp

theorem laws (c : Cfg α) : Laws State.drift State.total reset (core c) init SameUpTo where
  drift_eq h := h.2.2.1
  reset_rel h := ⟨h.1, rfl, rfl, rfl, rfl, rfl, rfl⟩
  core_rel e h := core_sameUpTo c _ _ _ e h
  reset_init _ := ⟨(Nat.zero_add _).symm, rfl, rfl, rfl, rfl, rfl, rfl⟩
  init_drift := nofun
  run_total xs := (stepd_epoch c xs).total

theorem step_sameUpTo (c : Cfg α) (off : Nat) (s t : State) (e : Bool) (h : SameUpTo off s t) :
    SameUpTo off (step c s e) (step c t e) :=
  (laws c).step_rel e h

theorem first_after_drift (c : Cfg α) (s : State) (e : Bool) (h : s.drift = .drift) :
    SameUpTo s.total (step c s e) (step c init e) :=
  (laws c).first_rel e h

/-- **STEPD twin theorem** (state form).  After any state with a pending drift, for every non-empty
    continuation the running detector equals a fresh detector fed only the continuation: drift state,
    since-reset counter, the window and the two counters of correct predictions (hence the three
    accuracies and the test statistic); `total_samples` and the indices in `retraining_recs` are
    shifted by the number of samples seen before. -/
theorem twin (c : Cfg α) (s : State) (h : s.drift = .drift) (y : Bool) (ys : List Bool) :
    SameUpTo s.total ((y :: ys).foldl (step c) s) (run c (y :: ys)) :=
  (laws c).twin h y ys

/-- the public accuracies agree whenever the states are related -/
theorem accuracies_sameUpTo (off : Nat) (s t : State) (h : SameUpTo off s t) :
    (recentAcc s : α) = recentAcc t ∧ (pastAcc s : α) = pastAcc t ∧ (overallAcc s : α) = overallAcc t := by
  obtain ⟨_, h2, _, h4, h5, h6, _⟩ := h
  simp only [recentAcc, pastAcc, overallAcc, h2, h4, h5, h6, and_self]

theorem twin_history (c : Cfg α) (xs : List Bool) (h : (run c xs).drift = .drift) (y : Bool)
    (ys : List Bool) : SameUpTo xs.length (run c (xs ++ y :: ys)) (run c (y :: ys)) :=
  (laws c).history xs h y ys

theorem twin_positions (c : Cfg α) (xs ys : List Bool) (h : (run c xs).drift = .drift) :
    ∀ k, 1 ≤ k → k ≤ ys.length →
      SameUpTo xs.length (run c (xs ++ ys.take k)) (run c (ys.take k)) :=
  (laws c).positions xs h ys

theorem twin_epochs (c : Cfg α) (xs : List Bool) (h : (run c xs).drift = .drift) (y : Bool)
    (ys : List Bool) (h2 : (run c (xs ++ y :: ys)).drift = .drift) (z : Bool) (zs : List Bool) :
    (run c (y :: ys)).drift = .drift ∧
    SameUpTo xs.length (run c (xs ++ (y :: ys) ++ z :: zs)) (run c ((y :: ys) ++ z :: zs)) ∧
    SameUpTo (xs.length + (y :: ys).length) (run c (xs ++ (y :: ys) ++ z :: zs)) (run c (z :: zs)) ∧
    SameUpTo (y :: ys).length (run c ((y :: ys) ++ z :: zs)) (run c (z :: zs)) :=
  (laws c).epochs xs h y ys h2 z zs

end anyCarrier

section examples
local instance : HasSqrt ℚ := ⟨fun x => x⟩
/-- non-vacuity: a history ending in a drift (update 6), and a continuation ending in a second
    drift (update 13) -/
example :
    (run (α := ℚ) ⟨2, 1/4, 3/2⟩ [false, false, false, false, false, true, true]).drift = .drift ∧
    (run (α := ℚ) ⟨2, 1/4, 3/2⟩ ([false, false, false, false, false, true, true] ++
      [true, false, false, false, false, true, true])).drift = .drift := by
  decide +kernel
end examples

end MV.STEPD

namespace MV.PH
open MV MV.Twin
section anyCarrier
variable {α : Type} [Add α] [Sub α] [Mul α] [Div α] [LT α] [DecidableLT α] [NatCast α]

/-- running state `s` equals fresh state `t` up to the total-counter offset -/
def SameUpTo (off : Nat) (s t : State α) : Prop :=
  s.total = t.total + off ∧ s.since = t.since ∧ s.drift = t.drift ∧
  s.mean = t.mean ∧ s.sum = t.sum ∧ s.mn = t.mn ∧ s.mx = t.mx

theorem core_sameUpTo (c : Cfg α) (off : Nat) (s t : State α) (x : α) (h : SameUpTo off s t) :
    SameUpTo off (core c s x).1 (core c t x).1 ∧ (core c s x).2 = (core c t x).2 := by
  -- `s` is `t` with another counter (`h.2 : SameEpoch s t`), which `core` only counts
  rw [SameEpoch.eq h.2, core_frame, h.1]
  exact ⟨⟨Nat.add_right_comm .., rfl, rfl, rfl, rfl, rfl, rfl⟩, rfl⟩

theorem laws (c : Cfg α) :
    Laws State.drift State.total reset (fun s x => (core c s x).1) init (SameUpTo (α := α)) where
  drift_eq h := h.2.2.1
  reset_rel h := ⟨h.1, rfl, rfl, rfl, rfl, rfl, rfl⟩
  core_rel x h := (core_sameUpTo c _ _ _ x h).1
  reset_init _ := ⟨(Nat.zero_add _).symm, rfl, rfl, rfl, rfl, rfl, rfl⟩
  init_drift := nofun
  run_total := run_total c

theorem step_sameUpTo (c : Cfg α) (off : Nat) (s t : State α) (x : α) (h : SameUpTo off s t) :
    SameUpTo off (step c s x).1 (step c t x).1 ∧ (step c s x).2 = (step c t x).2 :=
  core_sameUpTo c off _ _ x ((laws c).pre h)

theorem first_after_drift (c : Cfg α) (s : State α) (x : α) (h : s.drift = .drift) :
    SameUpTo s.total (step c s x).1 (step c init x).1 ∧ (step c s x).2 = (step c init x).2 := by
  rw [step_of_drift c s x h]
  exact ⟨⟨(Nat.add_comm ..).trans (congrArg (· + s.total) (step_total c init x).symm),
    rfl, rfl, rfl, rfl, rfl, rfl⟩, rfl⟩

/-- **PageHinkley twin theorem.**  After any history ending in a reported drift (state `s`),
for every non-empty continuation the running detector's state — drift state, since-reset
counter, mean, cumulative sum, extrema — equals that of a fresh detector fed only the
continuation, and the total counter is shifted by the number of samples seen before. -/
theorem twin (c : Cfg α) (s : State α) (h : s.drift = .drift) (y : α) (ys : List α) :
    SameUpTo s.total ((y :: ys).foldl (fun s x => (step c s x).1) s) (run c (y :: ys)) :=
  (laws c).twin h y ys

/-- the rows appended to `to_dataframe()` agree as well, position by position -/
theorem twin_rows (c : Cfg α) (s : State α) (h : s.drift = .drift) (y : α) (ys : List α) (x : α) :
    (step c ((y :: ys).foldl (fun s x => (step c s x).1) s) x).2 = (step c (run c (y :: ys)) x).2 :=
  (step_sameUpTo c _ _ _ x (twin c s h y ys)).2

/-- **PageHinkley twin theorem** (history form): after every history `xs` that ends in a reported
    drift, for every non-empty continuation the detector equals a fresh one fed only the continuation
    (`total_samples` shifted by `|xs|`), and the `to_dataframe()` rows appended along the
    continuation are the fresh detector's rows. -/
theorem twin_history (c : Cfg α) (xs : List α) (h : (run c xs).drift = .drift) (y : α) (ys : List α) :
    SameUpTo xs.length (run c (xs ++ y :: ys)) (run c (y :: ys)) ∧
    rowsFrom c (run c xs) (y :: ys) = rowsFrom c init (y :: ys) :=
  ⟨(laws c).history xs h y ys, (after_drift_fresh c xs h y ys).1⟩

theorem twin_positions (c : Cfg α) (xs ys : List α) (h : (run c xs).drift = .drift) :
    ∀ k, 1 ≤ k → k ≤ ys.length →
      SameUpTo xs.length (run c (xs ++ ys.take k)) (run c (ys.take k)) :=
  (laws c).positions xs h ys

theorem twin_epochs (c : Cfg α) (xs : List α) (h : (run c xs).drift = .drift) (y : α)
    (ys : List α) (h2 : (run c (xs ++ y :: ys)).drift = .drift) (z : α) (zs : List α) :
    (run c (y :: ys)).drift = .drift ∧
    SameUpTo xs.length (run c (xs ++ (y :: ys) ++ z :: zs)) (run c ((y :: ys) ++ z :: zs)) ∧
    SameUpTo (xs.length + (y :: ys).length) (run c (xs ++ (y :: ys) ++ z :: zs)) (run c (z :: zs)) ∧
    SameUpTo (y :: ys).length (run c ((y :: ys) ++ z :: zs)) (run c (z :: zs)) :=
  (laws c).epochs xs h y ys h2 z zs

end anyCarrier

/-- non-vacuity: a reachable state with a pending drift exists (carrier ℤ) -/
example : (run (α := Int) { delta := 0, threshold := 0, burnIn := 0, dir := .positive } [5, 9]).drift = .drift := by
  decide

example :
    (run (α := Int) { delta := 0, threshold := 0, burnIn := 0, dir := .positive } [5, 9]).drift = .drift ∧
    (run (α := Int) { delta := 0, threshold := 0, burnIn := 0, dir := .positive } ([5, 9] ++ [5, 9])).drift
      = .drift := by
  decide

end MV.PH

namespace MV.Cusum
open MV MV.Twin
section anyCarrier
variable {α : Type} [Add α] [Sub α] [Mul α] [Div α] [LT α] [DecidableLT α] [NatCast α] [BEq α]
  [HasSqrt α]

/-- the documented carry-over: a fresh detector constructed with `target` / `sd_hat` = mean /
    population standard deviation of the last `burn_in` observations of the stream so far
    (`hist`, newest first) -/
def carry (c : Cfg α) (hist : List α) : Cfg α :=
  { c with target0 := some (mean (window c.burnIn hist)), sd0 := some (std (window c.burnIn hist)) }

/-- running state `s` equals fresh state `t`: everything `update` reads or publishes (since-reset
    counter, drift state, `target`, `sd_hat`, the two statistics, the observations of the current
    epoch — `EpochRel`), `total_samples` shifted by `off`, and the running detector's `_stream` is
    the twin's `_stream` on top of the observations `past` seen before. -/
structure TwinRel (b off : Nat) (past : List α) (s t : State α) : Prop where
  epoch : EpochRel b s t
  total : s.total = t.total + off
  hist : s.hist = t.hist ++ past

/-- `OptRel` in this namespace is `Cusum.OptRel` of `Props/C04.lean`, also where `MV.Twin` is open;
    this equation carries the `Twin.OptRel` lemmas over -/
theorem optRel_eq (r : State α → State α → Prop) : OptRel r = Twin.OptRel r := by
  funext a b
  cases a <;> cases b <;> rfl

/-- **CUSUM twin theorem** (state form).  After any state with a pending drift, for every non-empty
    continuation: the running detector raises iff the fresh detector with the carried-over constants
    raises on the continuation alone, and otherwise both end in related states.
    (`burn_in = 0` is excluded: there `_stream[-0:]` is the whole stream, so the re-estimation reads
    every observation ever seen.) -/
theorem twin (c : Cfg α) (hb : 1 ≤ c.burnIn) (s : State α) (hd : s.drift = .drift) (y : α)
    (ys : List α) :
    OptRel (TwinRel c.burnIn s.total s.hist) (runFrom c s (y :: ys)) (run (carry c s.hist) (y :: ys)) := by
  have h1 := runFrom_of_drift c hb s hd y ys
  rw [optRel_eq] at h1 ⊢
  -- the epoch state is related; the count and the stream follow from what every update appends
  refine h1.imp fun s' t' hs ht he => ⟨he, ?_, ?_⟩
  · rw [(runFrom_counters hs).1, (runFrom_counters ht).1]
    exact (Nat.add_comm ..).trans (congrArg (· + s.total) (Nat.zero_add _).symm)
  · rw [(runFrom_counters hs).2, (runFrom_counters ht).2]
    exact (congrArg (· ++ s.hist) (List.append_nil _)).symm

/-- **CUSUM twin theorem** (history form; `Cusum.after_drift_fresh` of `Props/C04.lean` with the
    counter shift and the `_stream` clause added): every history `xs` that ends in a reported drift,
    every non-empty continuation. -/
theorem twin_history (c : Cfg α) (hb : 1 ≤ c.burnIn) (xs : List α) (s : State α)
    (h : run c xs = some s) (hd : s.drift = .drift) (y : α) (ys : List α) :
    OptRel (TwinRel c.burnIn xs.length xs.reverse) (run c (xs ++ y :: ys))
      (run (carry c xs.reverse) (y :: ys)) := by
  obtain ⟨ht, hh, _⟩ := run_lifecycle c xs s h
  rw [run_append, h, ← ht, ← hh]
  exact twin c hb s hd y ys

theorem twin_positions (c : Cfg α) (hb : 1 ≤ c.burnIn) (xs ys : List α) (s : State α)
    (h : run c xs = some s) (hd : s.drift = .drift) :
    ∀ k, 1 ≤ k → k ≤ ys.length →
      OptRel (TwinRel c.burnIn xs.length xs.reverse) (run c (xs ++ ys.take k))
        (run (carry c xs.reverse) (ys.take k)) :=
  positions (P := fun l => OptRel (TwinRel c.burnIn xs.length xs.reverse) (run c (xs ++ l))
    (run (carry c xs.reverse) l)) (twin_history c hb xs s h hd) ys

/-- **No observation older than the epoch is carried over**: when a history `ys` of a detector ends
    in a drift, the constants re-estimated then are the same whatever was observed before `ys`. -/
theorem carry_epoch_only (c c' : Cfg α) (hc : c'.burnIn = c.burnIn) (hb : 1 ≤ c.burnIn) (ys : List α)
    (t : State α) (h : run c' ys = some t) (hd : t.drift = .drift) (past : List α) :
    carry c (ys.reverse ++ past) = carry c ys.reverse := by
  obtain ⟨ht, _, hw⟩ := run_lifecycle c' ys t h
  -- a detector in drift is past its burn-in, so the window lies inside `ys`
  have hlt : c.burnIn < ys.reverse.length := by
    rw [List.length_reverse, ← ht, ← hc]
    exact Nat.lt_of_lt_of_le (hw.past hd) hw.le
  unfold carry
  rw [take_window hb hlt (ys.reverse ++ past) ys.reverse (by rw [List.take_left, List.take_length])]

/-- **Second drift** (re-apply for later ones).  If the continuation `y :: ys` ends in a drift again,
    the twin reports it too; the constants carried over at that drift are computed from the second epoch alone;
    and afterwards the running detector and the first twin both continue like the *same* second
    fresh detector.  Every clause is an instance of `twin_history` (the twin is an ordinary run);
    no induction on the number of epochs is involved. -/
theorem twin_epochs (c : Cfg α) (hb : 1 ≤ c.burnIn) (xs : List α) (s : State α)
    (h : run c xs = some s) (hd : s.drift = .drift) (y : α) (ys : List α) (s2 : State α)
    (h2 : run c (xs ++ y :: ys) = some s2) (hd2 : s2.drift = .drift) (z : α) (zs : List α) :
    (∃ t2, run (carry c xs.reverse) (y :: ys) = some t2 ∧ t2.drift = .drift) ∧
    carry c (xs ++ y :: ys).reverse = carry c (y :: ys).reverse ∧
    OptRel (TwinRel c.burnIn (xs.length + (y :: ys).length) (xs ++ y :: ys).reverse)
      (run c (xs ++ (y :: ys) ++ z :: zs)) (run (carry c (y :: ys).reverse) (z :: zs)) ∧
    OptRel (TwinRel c.burnIn (y :: ys).length (y :: ys).reverse)
      (run (carry c xs.reverse) ((y :: ys) ++ z :: zs)) (run (carry c (y :: ys).reverse) (z :: zs)) := by
  have r := twin_history c hb xs s h hd y ys
  rw [h2, optRel_eq] at r
  rcases r.cases with ⟨e, -⟩ | ⟨_, t2, e, ht, r⟩ <;> cases e
  have hdt : t2.drift = .drift := r.epoch.drift ▸ hd2
  have hcarry : carry c (xs ++ y :: ys).reverse = carry c (y :: ys).reverse := by
    rw [List.reverse_append]
    exact carry_epoch_only c (carry c xs.reverse) rfl hb (y :: ys) t2 ht hdt xs.reverse
  refine ⟨⟨t2, ht, hdt⟩, hcarry, ?_, twin_history (carry c xs.reverse) hb (y :: ys) t2 ht hdt z zs⟩
  have := twin_history c hb (xs ++ y :: ys) s2 h2 hd2 z zs
  rwa [hcarry, List.length_append] at this

end anyCarrier

section examples
local instance : HasSqrt ℚ := ⟨fun x => x⟩
/-- non-vacuity: a history ending in a drift and a continuation ending in a second drift
    (`twin`, `twin_history`, `twin_epochs` have satisfiable hypotheses; `exKnown.burnIn = 2`) -/
example : (run exKnown [0, 0, 3]).map (·.drift) = some .drift ∧
    (run exKnown ([0, 0, 3] ++ [4, 4, 4])).map (·.drift) = some .drift ∧ 1 ≤ exKnown.burnIn := by
  decide +kernel
end examples
end MV.Cusum

namespace MV.NNDVI
open MV MV.NNSP MV.Twin
section anyCarrier
variable {α : Type} [LT α] [DecidableLT α] [Add α] [Sub α] [Mul α] [Div α] [Neg α] [NatCast α] [HasSqrt α]

/-- what the updates of a history return (accepted or not, distance, threshold, validity of the
    supplied k-NN graph) -/
def outs (c : Cfg α) (s : State α) : List (Op α) → List (Out α)
  | [] => []
  | op :: ops => (step c s op.1 op.2.1 op.2.2).2 :: outs c (step c s op.1 op.2.1 op.2.2).1 ops

/-- running state `s` equals fresh state `t` up to the offset of `total_batches` -/
def SameUpTo (off : Nat) (s t : State α) : Prop :=
  s.total = t.total + off ∧ s.since = t.since ∧ s.drift = t.drift ∧ s.reference = t.reference

/-- the weaker relation that survives `set_reference` (which does not touch `batches_since_reset`) -/
def SameDecisions (off : Nat) (s t : State α) : Prop :=
  s.total = t.total + off ∧ s.drift = t.drift ∧ s.reference = t.reference

/-- equal inputs and equal draws: the relation is preserved and the update returns the same -/
theorem step_sameDecisions (c : Cfg α) (off : Nat) (s t : State α) (X : List (Row α))
    (adj : List (List Bool)) (perms : List (List Nat)) (h : SameDecisions off s t) :
    SameDecisions off (step c s X adj perms).1 (step c t X adj perms).1 ∧
    (step c s X adj perms).2 = (step c t X adj perms).2 := by
  obtain ⟨h1, h2, h3⟩ := h
  rw [step_eq, step_eq, h2, h3]
  exact ⟨⟨by rw [h1]; exact Nat.add_right_comm .., rfl, rfl⟩, rfl⟩

theorem step_sameUpTo (c : Cfg α) (off : Nat) (s t : State α) (X : List (Row α))
    (adj : List (List Bool)) (perms : List (List Nat)) (h : SameUpTo off s t) :
    SameUpTo off (step c s X adj perms).1 (step c t X adj perms).1 ∧
    (step c s X adj perms).2 = (step c t X adj perms).2 := by
  obtain ⟨h1, h2, h3, h4⟩ := h
  rw [step_eq, step_eq, h2, h3, h4]
  exact ⟨⟨by rw [h1]; exact Nat.add_right_comm .., rfl, rfl, rfl⟩, rfl⟩

theorem run_rel (c : Cfg α) (R : State α → State α → Prop) (hd : ∀ s t, R s t → s.drift = t.drift)
    (hstep : ∀ s t X adj perms, R s t →
      R (step c s X adj perms).1 (step c t X adj perms).1 ∧ (step c s X adj perms).2 = (step c t X adj perms).2)
    (ops : List (Op α)) (s t : State α) (h : R s t) :
    R (run c s ops) (run c t ops) ∧ outs c s ops = outs c t ops ∧ flags c s ops = flags c t ops := by
  induction ops generalizing s t with
  | nil => exact ⟨h, rfl, rfl⟩
  | cons op ops ih =>
    obtain ⟨h1, h2⟩ := hstep s t op.1 op.2.1 op.2.2 h
    obtain ⟨i1, i2, i3⟩ := ih _ _ h1
    exact ⟨i1, by simp only [outs, h2, i2], by simp only [flags, hd _ _ h1, i3]⟩

/-- **NNDVI twin theorem** (state form).  After any state with a pending drift — its reference `B`
    is then the drifted batch, see `drift_reference` — for every non-empty continuation (batches,
    k-NN graphs, draws) the running detector equals a fresh detector on which `set_reference(B)` was
    called and which is fed only the continuation with the same draws: every update returns the same
    (accepted / rejected, distance, threshold), and drift state, `batches_since_reset` and reference
    batch are equal; `total_batches` is shifted by the number of batches seen before. -/
theorem twin (c : Cfg α) (s : State α) (hd : s.drift = .drift) (B : List (Row α))
    (hr : s.reference = some B) (op : Op α) (ops : List (Op α)) :
    SameUpTo s.total (run c s (op :: ops)) (run c (setReference init B) (op :: ops)) ∧
    outs c s (op :: ops) = outs c (setReference init B) (op :: ops) ∧
    flags c s (op :: ops) = flags c (setReference init B) (op :: ops) := by
  have h0 : SameUpTo s.total (pre s) (setReference init B) := by
    rw [pre, if_pos hd]
    exact ⟨(Nat.zero_add _).symm, rfl, rfl, hr⟩
  -- the first update performs `pre` itself (`step_pre`): the run from `pre s` is the run from `s`
  simpa only [run, outs, flags, step_pre] using
    run_rel c _ (fun _ _ h => h.2.2.1) (step_sameUpTo c _) (op :: ops) _ _ h0

/-- a reported drift makes the batch just seen the reference (whatever the state before) -/
theorem drift_reference (c : Cfg α) (s : State α) (X : List (Row α)) (adj : List (List Bool))
    (perms : List (List Nat)) (h : (step c s X adj perms).1.drift = .drift) :
    (step c s X adj perms).1.reference = some X := by
  rw [step_reference, if_pos h]

theorem outs_append (c : Cfg α) (s : State α) (ops ops' : List (Op α)) :
    outs c s (ops ++ ops') = outs c s ops ++ outs c (run c s ops) ops' := by
  induction ops generalizing s with
  | nil => rfl
  | cons op ops ih => simp only [List.cons_append, run, outs, ih]

/-- **NNDVI twin theorem** (history form): every start state `s0` (typically
    `setReference init R`), every history `ops` followed by an update on `X` that reports drift, every
    non-empty continuation: the running detector equals the fresh detector with reference `X`. -/
theorem twin_history (c : Cfg α) (s0 : State α) (ops : List (Op α)) (X : List (Row α))
    (adj : List (List Bool)) (perms : List (List Nat))
    (h : (run c s0 (ops ++ [(X, adj, perms)])).drift = .drift) (op : Op α) (ops' : List (Op α)) :
    SameUpTo (s0.total + ops.length + 1) (run c s0 (ops ++ [(X, adj, perms)] ++ op :: ops'))
      (run c (setReference init X) (op :: ops')) ∧
    outs c s0 (ops ++ [(X, adj, perms)] ++ op :: ops') =
      outs c s0 (ops ++ [(X, adj, perms)]) ++ outs c (setReference init X) (op :: ops') := by
  have hr : (run c s0 (ops ++ [(X, adj, perms)])).reference = some X := by
    rw [run_append] at h ⊢
    exact drift_reference c _ X adj perms h
  have ht : (run c s0 (ops ++ [(X, adj, perms)])).total = s0.total + ops.length + 1 := by
    rw [run_total, List.length_append, List.length_singleton, Nat.add_assoc]
  obtain ⟨t1, t2, _⟩ := twin c _ h X hr op ops'
  rw [ht] at t1
  exact ⟨by rw [run_append]; exact t1, by rw [outs_append, t2]⟩

/-- the state is only ever `none` or `drift`, along every history -/
theorem run_state_range (c : Cfg α) (s : State α) (hs : s.drift ≠ .warning) (ops : List (Op α)) :
    (run c s ops).drift ≠ .warning := by
  induction ops generalizing s with
  | nil => exact hs
  | cons op ops ih => exact ih _ (step_state_range c s _ _ _ hs)

/-- **`set_reference` twin theorem.**  At any time (any state NNDVI can be in, pending drift or not)
    `set_reference(B)` makes all later decisions those of a fresh detector started on `B`: for
    every non-empty continuation with the same draws, every update returns the same (accepted /
    rejected, distance, threshold), the drift flags are the same, and drift state and reference
    batch agree after it; `total_batches` is shifted.  (`batches_since_reset` is not part of the
    relation: `set_reference` does not reset it.  From the next drift on it is — `twin`.) -/
theorem setReference_twin (c : Cfg α) (s : State α) (hw : s.drift ≠ .warning) (B : List (Row α))
    (op : Op α) (ops : List (Op α)) :
    SameDecisions s.total (run c (setReference s B) (op :: ops)) (run c (setReference init B) (op :: ops)) ∧
    outs c (setReference s B) (op :: ops) = outs c (setReference init B) (op :: ops) ∧
    flags c (setReference s B) (op :: ops) = flags c (setReference init B) (op :: ops) := by
  have h0 : SameDecisions s.total (pre (setReference s B)) (setReference init B) := by
    unfold pre
    split
    · exact ⟨(Nat.zero_add _).symm, rfl, rfl⟩
    · next hd =>
      exact ⟨(Nat.zero_add _).symm, Drift.eq_none_of_ne hw hd, rfl⟩
  simpa only [run, outs, flags, step_pre] using
    run_rel c _ (fun _ _ h => h.2.1) (step_sameDecisions c _) (op :: ops) _ _ h0

theorem setReference_twin_history (c : Cfg α) (s0 : State α) (hw : s0.drift ≠ .warning)
    (ops : List (Op α)) (B : List (Row α)) (op : Op α) (ops' : List (Op α)) :
    SameDecisions (s0.total + ops.length) (run c (setReference (run c s0 ops) B) (op :: ops'))
      (run c (setReference init B) (op :: ops')) ∧
    outs c (setReference (run c s0 ops) B) (op :: ops') = outs c (setReference init B) (op :: ops') ∧
    flags c (setReference (run c s0 ops) B) (op :: ops') = flags c (setReference init B) (op :: ops') := by
  have := setReference_twin c (run c s0 ops) (run_state_range c s0 hw ops) B op ops'
  rw [run_total] at this
  exact this

/-- **Second drift** (re-apply for later ones): when the continuation ends in a drift again (on batch `X'`) the twin
    reports it too, and from then on the running detector and the first twin both equal the fresh
    detector with reference `X'` — instances of `twin_history`, the twin being an ordinary run. -/
theorem twin_epochs (c : Cfg α) (s0 : State α) (ops : List (Op α)) (X : List (Row α))
    (adj : List (List Bool)) (perms : List (List Nat))
    (h : (run c s0 (ops ++ [(X, adj, perms)])).drift = .drift)
    (ops1 : List (Op α)) (X' : List (Row α)) (adj' : List (List Bool)) (perms' : List (List Nat))
    (h2 : (run c s0 (ops ++ [(X, adj, perms)] ++ (ops1 ++ [(X', adj', perms')]))).drift = .drift)
    (op : Op α) (ops2 : List (Op α)) :
    (run c (setReference init X) (ops1 ++ [(X', adj', perms')])).drift = .drift ∧
    SameUpTo (s0.total + (ops ++ [(X, adj, perms)] ++ ops1).length + 1)
      (run c s0 (ops ++ [(X, adj, perms)] ++ ops1 ++ [(X', adj', perms')] ++ op :: ops2))
      (run c (setReference init X') (op :: ops2)) ∧
    SameUpTo (ops1.length + 1)
      (run c (setReference init X) (ops1 ++ [(X', adj', perms')] ++ op :: ops2))
      (run c (setReference init X') (op :: ops2)) := by
  obtain ⟨o, os, ho⟩ := List.exists_cons_of_ne_nil (l := ops1 ++ [(X', adj', perms')]) (by simp)
  have r := (twin_history c s0 ops X adj perms h o os).1
  rw [← ho] at r
  have hd : (run c (setReference init X) (ops1 ++ [(X', adj', perms')])).drift = .drift :=
    r.2.2.1 ▸ h2
  refine ⟨hd, ?_, ?_⟩
  · rw [← List.append_assoc] at h2
    exact (twin_history c s0 _ X' adj' perms' h2 op ops2).1
  · have := (twin_history c (setReference init X) ops1 X' adj' perms' hd op ops2).1
    simpa [setReference, init] using this

end anyCarrier

end MV.NNDVI
