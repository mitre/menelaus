/-
  C16 — only agreement between label and prediction matters to error-based detectors;
  documented-unused arguments are unused.

  The models of DDM, EDDM and STEPD consume one `Bool` per update — the error bit
  `y_pred != y_true` — and nothing else.  What that buys is stated for an arbitrary step function
  (any state type, any carrier, so also the executed `Float` instances) and labels of an arbitrary
  type with decidable equality: label histories with the same agreement bits, or with the same
  confusion cells for a detector fed 0/1 pairs, give the same trace of *complete* states.
  That the Python classes feed exactly that bit to the modelled step (`int(y_pred != y_true)` in DDM,
  its complement `int(y_pred == y_true)` in EDDM and STEPD) is checked by twin runs under
  re-encodings, not proved.  `Props/C16More.lean` has the models of ADWINAccuracy and LinearFourRates.
-/
import MenelausVerif.Model.DDM
import MenelausVerif.Model.EDDM
import MenelausVerif.Model.STEPD
namespace MV.C16

/-- the complete state after every update -/
def trace {σ ι : Type} (step : σ → ι → σ) : σ → List ι → List σ
  | _, [] => []
  | s, x :: xs => step s x :: trace step (step s x) xs

/-- `y_true == y_pred` -/
def agree {L : Type} [DecidableEq L] (p : L × L) : Bool := decide (p.1 = p.2)

/-- a detector that is handed `(y_true, y_pred)` and passes the error bit to its step -/
def labelStep {σ L : Type} [DecidableEq L] (step : σ → Bool → σ) (s : σ) (p : L × L) : σ :=
  step s (!agree p)

theorem trace_map {σ ι κ : Type} (step : σ → κ → σ) (f : ι → κ) (s : σ) (xs : List ι) :
    trace (fun s x => step s (f x)) s xs = trace step s (xs.map f) := by
  induction xs generalizing s with
  | nil => rfl
  | cons x xs ih => simp [trace, ih]

theorem trace_congr_map {σ ι ι' κ : Type} (step : σ → κ → σ) (f : ι → κ) (g : ι' → κ) (s : σ)
    (xs : List ι) (ys : List ι') (h : xs.map f = ys.map g) :
    trace (fun s x => step s (f x)) s xs = trace (fun s y => step s (g y)) s ys := by
  rw [trace_map step f, trace_map step g, h]

theorem trace_getLast {σ ι : Type} (step : σ → ι → σ) (s : σ) (xs : List ι) (h : xs ≠ []) :
    (trace step s xs).getLast? = some (xs.foldl step s) := by
  induction xs generalizing s with
  | nil => exact absurd rfl h
  | cons x xs ih =>
    cases xs with
    | nil => rfl
    | cons y ys => exact ih (step s x) nofun

/-- **Only agreement matters.**  Label histories over any two label types with the same
    agreement bits give the same trace of complete states, from any starting state. -/
theorem trace_depends_on_agreement {σ L L' : Type} [DecidableEq L] [DecidableEq L']
    (step : σ → Bool → σ) (s : σ) (ps : List (L × L)) (qs : List (L' × L'))
    (h : ps.map agree = qs.map agree) :
    trace (labelStep step) s ps = trace (labelStep step) s qs :=
  trace_congr_map step (fun p => !agree p) (fun p => !agree p) s ps qs
    (by simpa [List.map_map, Function.comp_def] using congrArg (List.map (fun b : Bool => !b)) h)

theorem agree_relabel {L L' : Type} [DecidableEq L] [DecidableEq L'] (f : L → L')
    (hf : ∀ a b, f a = f b → a = b) (p : L × L) : agree (f p.1, f p.2) = agree p :=
  decide_eq_decide.2 ⟨hf _ _, congrArg f⟩

/-- **Injective re-encodings preserve the trace**: other integers, strings, booleans, floats, any
    number of classes. -/
theorem injective_relabel {σ L L' : Type} [DecidableEq L] [DecidableEq L']
    (step : σ → Bool → σ) (s : σ) (f : L → L') (hf : ∀ a b, f a = f b → a = b) (ps : List (L × L)) :
    trace (labelStep step) s (ps.map (fun p => (f p.1, f p.2))) = trace (labelStep step) s ps := by
  apply trace_depends_on_agreement
  rw [List.map_map]
  apply List.map_congr_left
  intro p _
  exact agree_relabel f hf p

/-- an update with a further argument that the step is not given (`X` of the concept-drift
    detectors; `y_true` / `y_pred` of change and data-drift detectors, with `ι` the data) -/
def withUnused {σ ι ξ : Type} (step : σ → ι → σ) (s : σ) (a : ι × ξ) : σ := step s a.1

/-- **Unused arguments are unused**: whatever is passed there, the trace is the same. -/
theorem unused_argument {σ ι ξ ξ' : Type} (step : σ → ι → σ) (s : σ)
    (as : List (ι × ξ)) (bs : List (ι × ξ')) (h : as.map Prod.fst = bs.map Prod.fst) :
    trace (withUnused step) s as = trace (withUnused step) s bs :=
  trace_congr_map step Prod.fst Prod.fst s as bs h

/-- a detector that is handed 0/1 labels in some encoding and passes the confusion-matrix
    cell `(y_pred, y_true)` to its step (LinearFourRates: `_confusion[1*y_pred][1*y_true] += 1`) -/
def cellStep {σ L : Type} (bit : L → Bool) (step : σ → Bool × Bool → σ) (s : σ) (p : L × L) : σ :=
  step s (bit p.2, bit p.1)

/-- **Only the cell matters.**  Two encodings of 0/1 labels whose histories decode to the
    same cells give the same trace. -/
theorem cell_only {σ L L' : Type} (bit : L → Bool) (bit' : L' → Bool)
    (step : σ → Bool × Bool → σ) (s : σ) (ps : List (L × L)) (qs : List (L' × L'))
    (h : ps.map (fun p => (bit p.2, bit p.1)) = qs.map (fun p => (bit' p.2, bit' p.1))) :
    trace (cellStep bit step) s ps = trace (cellStep bit' step) s qs :=
  trace_congr_map step _ _ s ps qs h

/-- the three models have the shape the general statement asks for; nothing else of a model is used -/
theorem ddm_agreement {α : Type} [Add α] [Sub α] [Mul α] [Div α] [LE α] [DecidableLE α] [NatCast α]
    [HasSqrt α] {L L' : Type} [DecidableEq L] [DecidableEq L'] (c : DDM.Cfg α) (s : DDM.State α)
    (ps : List (L × L)) (qs : List (L' × L')) (h : ps.map agree = qs.map agree) :
    trace (labelStep (DDM.step c)) s ps = trace (labelStep (DDM.step c)) s qs :=
  trace_depends_on_agreement _ s ps qs h

theorem eddm_agreement {α : Type} [Add α] [Sub α] [Mul α] [Div α] [LT α] [DecidableLT α] [LE α]
    [DecidableLE α] [NatCast α] [HasSqrt α] {L L' : Type} [DecidableEq L] [DecidableEq L']
    (c : EDDM.Cfg α) (s : EDDM.State α)
    (ps : List (L × L)) (qs : List (L' × L')) (h : ps.map agree = qs.map agree) :
    trace (labelStep (EDDM.step c)) s ps = trace (labelStep (EDDM.step c)) s qs :=
  trace_depends_on_agreement _ s ps qs h

theorem stepd_agreement {α : Type} [Add α] [Sub α] [Mul α] [Div α] [Neg α] [LT α] [DecidableLT α]
    [NatCast α] [HasSqrt α] {L L' : Type} [DecidableEq L] [DecidableEq L'] (c : STEPD.Cfg α)
    (s : STEPD.State) (ps : List (L × L)) (qs : List (L' × L')) (h : ps.map agree = qs.map agree) :
    trace (labelStep (STEPD.step c)) s ps = trace (labelStep (STEPD.step c)) s qs :=
  trace_depends_on_agreement _ s ps qs h

/-- the last state of the labelled trace is the model's `run` on the error bits
    (ties this file's `trace` to the model's `DDM.run`, the object of C05) -/
theorem ddm_trace_last {α : Type} [Add α] [Sub α] [Mul α] [Div α] [LE α] [DecidableLE α] [NatCast α]
    [HasSqrt α] {L : Type} [DecidableEq L] (c : DDM.Cfg α) (ps : List (L × L)) (h : ps ≠ []) :
    (trace (labelStep (DDM.step c)) DDM.init ps).getLast? =
      some (DDM.run c (ps.map (fun p => !agree p))) := by
  rw [trace_getLast _ _ ps h, DDM.run, List.foldl_map]; rfl

/-- the hypothesis of `trace_depends_on_agreement` is satisfiable across label types: strings vs.
    three integer classes with the same agreement pattern -/
example : ([("cat", "cat"), ("cat", "dog"), ("dog", "dog")].map agree)
    = ([((2 : Nat), 2), (0, 1), (1, 1)].map agree) := by decide

/-- an injective re-encoding, as `injective_relabel` asks for -/
example : ∀ a b : Bool, (fun b : Bool => if b then "yes" else "no") a
    = (fun b : Bool => if b then "yes" else "no") b → a = b := by decide

end MV.C16
