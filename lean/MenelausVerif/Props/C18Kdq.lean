/-
  C18 (kdq-tree part) — the kdq-tree partitioner and the KdqTreeBatch detector ignore the order of
  the rows inside a batch.

  Models: Model/KdqTree.lean (`build`, `buildAux`, `fill`, `leafCountsD`, `klCounts`, `klDistance?`),
  Model/KdqDetect.lean (`bSetRef`, `bStep`, `criticalKld`).

  Laws used (said precisely, nothing else is assumed about the carrier; `+ - * / trunc log rint` and
  the numerals are arbitrary operations, so no arithmetic law is used anywhere in this file):
    * `minOf` / `maxOf` (`np.min`, `np.max`): `<` comes from a **linear order** (`minOf` is then the
      least, `maxOf` the greatest element, `Lemmas/KdqArith.lean`).  Without an order law the left
      fold `if b < a then b else a` depends on the order of the elements (a NaN in a `Float` column
      is the standard counter-example).
    * `uniqueCount` (`np.unique(data).size`, coded as "prepend `x` unless some element already seen
      is `== x`", then take the length): `==` is a **partial equivalence** (`PartialEquivBEq`:
      symmetric and transitive; reflexivity is *not* needed — an element with `x == x = false` is
      related to nothing and is counted once per occurrence in either order).  `LawfulBEq` /
      `EquivBEq` carriers (ℚ, ℝ, …) are instances.  The `==` need not be related to the order.
    * `filter` by `goesUp` / `goesDown`, `fill`, `leafCountsD`, `klDistance?`: **no law at all**
      (`fill_perm`, `leafCounts_perm`, `kl_distance_perm` hold for every carrier, in particular for
      the executed `Float` instance): `fill` reads only the *lengths* of the filtered lists.

  "The same draws" is meaningful: the bootstrap draws are vectors of *leaf indices*, and the leaves
  are the same list in both runs (`build_perm`).  That the real code, under a fixed seed, draws the
  same indices in both runs is not proved here (numpy's `choice(p=ref_dist)` is an oracle, DESIGN §3.3);
  it is plausible because `ref_dist` and the sizes are equal (`bSetRef_perm`) and checked by the
  harness on the real classes.
-/
import MenelausVerif.Lemmas.KdqStep
import MenelausVerif.Props.C08
import MenelausVerif.Props.C18
set_option linter.unusedSectionVars false

namespace MV.Kdq.C18
open MV MV.Kdq

section order
variable {α : Type} [Inhabited α] [LinearOrder α]

theorem minOf_perm {l l' : List α} (h : l.Perm l') : minOf l = minOf l' :=
  extremum_perm (fun _ _ => le_antisymm) (fun _ => minOf_least) h

theorem maxOf_perm {l l' : List α} (h : l.Perm l') : maxOf l = maxOf l' :=
  extremum_perm (r := (· ≥ ·)) (fun _ _ h h' => le_antisymm h' h) (fun _ => maxOf_greatest) h

variable [Sub α]

theorem ptp_perm {l l' : List α} (h : l.Perm l') : ptp l = ptp l' := by
  unfold ptp; rw [minOf_perm h, maxOf_perm h]

end order

section col
variable {α : Type} [Inhabited α]

theorem col_perm {d d' : List (List α)} (h : d.Perm d') (a : Nat) : (col d a).Perm (col d' a) :=
  h.map _

end col

section midpoint
variable {α : Type} [Inhabited α] [LinearOrder α] [Add α] [Sub α] [Div α] [NatCast α]

theorem midpoint_perm {d d' : List (List α)} (h : d.Perm d') (a : Nat) : midpoint d a = midpoint d' a := by
  unfold midpoint; rw [minOf_perm (col_perm h a), ptp_perm (col_perm h a)]

end midpoint

section unique
variable {α : Type} [BEq α]

/-- one step of the fold in `uniqueCount` -/
def seenStep (seen : List α) (x : α) : List α := if seen.any (· == x) then seen else x :: seen

theorem uniqueCount_eq (xs : List α) : uniqueCount xs = (xs.foldl seenStep []).length := rfl

/-- all the fold reads of its "seen" list: the length and the membership test -/
def seenAbs (s : List α) : Nat × (α → Bool) := (s.length, fun z => s.any (· == z))

/-- `seenStep` on that pair -/
def absStep (a : Nat × (α → Bool)) (x : α) : Nat × (α → Bool) :=
  (if a.2 x then a.1 else a.1 + 1, fun z => a.2 z || (!a.2 x && x == z))

theorem seenAbs_step (s : List α) (x : α) : seenAbs (seenStep s x) = absStep (seenAbs s) x := by
  unfold seenStep seenAbs absStep
  cases h : s.any (· == x) <;> simp [h, Bool.or_comm]

theorem seenAbs_foldl (l s : List α) : seenAbs (l.foldl seenStep s) = l.foldl absStep (seenAbs s) := by
  induction l generalizing s with
  | nil => rfl
  | cons x xs ih => rw [List.foldl_cons, List.foldl_cons, ih, seenAbs_step]

variable [PartialEquivBEq α]

/-- filing two values in either order gives the same count and the same membership test
    (symmetry and transitivity of `==`) -/
theorem absStep_comm (a : Nat × (α → Bool)) (x y : α) : absStep (absStep a x) y = absStep (absStep a y) x := by
  have hxy : (y == x) = (x == y) := BEq.comm
  have htr : ∀ z, (x == y) = true → (x == z) = (y == z) := fun z h =>
    Bool.eq_iff_iff.2 ⟨fun h1 => PartialEquivBEq.trans (BEq.symm h) h1, fun h1 => PartialEquivBEq.trans h h1⟩
  obtain ⟨n, P⟩ := a
  simp only [absStep, Prod.mk.injEq]
  cases hx : P x <;> cases hy : P y <;> cases hb : (x == y) <;> simp [hb, hxy]
  -- left over: neither value seen before.  Unrelated, both are filed, in either order;
  · funext z; rw [Bool.or_right_comm]
  -- related, only the first is filed, and the two stand for each other in the membership test
  · funext z; rw [htr z hb]

/-- `np.unique(data).size` as coded (a fold that keeps the values not `==` to one kept before) is
    invariant under permutations when `==` is symmetric and transitive -/
theorem uniqueCount_perm {l l' : List α} (h : l.Perm l') : uniqueCount l = uniqueCount l' := by
  have := h.foldl_eq' (f := absStep) (fun x _ y _ z => absStep_comm z x y) (seenAbs [])
  rw [← seenAbs_foldl, ← seenAbs_foldl] at this
  rw [uniqueCount_eq, uniqueCount_eq]
  exact congrArg Prod.fst this

end unique

section stops
variable {α : Type} [Inhabited α] [Add α] [Sub α] [Mul α] [Div α] [LinearOrder α] [NatCast α]
  [BEq α] [PartialEquivBEq α]

/-- the stop rule of `KDQTreeNode.build` reads the row count, `np.unique(data).size` of the flattened
    array, and min / ptp of one column — all invariant -/
theorem stops_perm (ub : Nat) (mins : List α) {d d' : List (List α)} (h : d.Perm d') (a : Nat) :
    stops ub mins d a = stops ub mins d' a := by
  unfold stops
  rw [h.length_eq, uniqueCount_perm h.flatten, midpoint_perm h a, minOf_perm (col_perm h a)]

end stops

section halves
variable {α : Type} [Inhabited α] [LT α] [DecidableLT α] [LE α] [DecidableLE α]

theorem goesUp_filter_perm (a : Nat) (mid : α) {d d' : List (List α)} (h : d.Perm d') :
    (d.filter (goesUp a mid)).Perm (d'.filter (goesUp a mid)) := h.filter _

theorem goesDown_filter_perm (a : Nat) (mid : α) {d d' : List (List α)} (h : d.Perm d') :
    (d.filter (goesDown a mid)).Perm (d'.filter (goesDown a mid)) := h.filter _

end halves

section build
variable {α : Type} [Inhabited α] [Add α] [Sub α] [Mul α] [Div α] [LinearOrder α] [NatCast α]
  [BEq α] [PartialEquivBEq α]

theorem minCutpointSizes_perm [HasTrunc α] (c : Cfg α) (m : Nat) {d d' : List (List α)} (h : d.Perm d') :
    minCutpointSizes c m d = minCutpointSizes c m d' := by
  unfold minCutpointSizes
  apply List.map_congr_left
  intro a _
  rw [ptp_perm (col_perm h a)]

/-- **`KDQTreeNode.build` on permuted rows returns the same tree** — same split axes, same midpoints,
    same `"build"` counts at every node, same leaves in the same order — for every fuel, depth, bound
    and `min_cutpoint_sizes`; and it runs out of fuel on the one input iff it does on the other -/
theorem buildAux_perm (ub : Nat) (mins : List α) (m : Nat) :
    ∀ (fuel depth : Nat) {d d' : List (List α)}, d.Perm d' →
      buildAux ub mins m fuel depth d = buildAux ub mins m fuel depth d' := by
  intro fuel
  induction fuel with
  | zero => intro depth d d' _; rfl
  | succ fuel ih =>
    intro depth d d' h
    have hm := midpoint_perm h (depth % m)
    have hup := goesUp_filter_perm (depth % m) (midpoint d (depth % m)) h
    have hdn := goesDown_filter_perm (depth % m) (midpoint d (depth % m)) h
    have ihu := ih (depth + 1) hup
    have ihd := ih (depth + 1) hdn
    simp only [buildAux]
    rw [← h.length_eq, ← stops_perm ub mins h (depth % m), ← hm, ← ihu, ← ihd, ← hup.length_eq, ← hdn.length_eq]

/-- **`KDQTreePartitioner.build` on permuted rows returns the same tree** (including the per-id counts;
    `none` = `RecursionError` on both or on neither) -/
theorem build_perm [HasTrunc α] (c : Cfg α) (m : Nat) {d d' : List (List α)} (h : d.Perm d') :
    build c m d = build c m d' := by
  unfold build
  rw [minCutpointSizes_perm c m h, h.length_eq]
  exact buildAux_perm _ _ _ _ _ h

end build

section fill
variable {α : Type} [Inhabited α] [LT α] [DecidableLT α] [LE α] [DecidableLE α]

/-- **`fill` with permuted data gives the same tree** (every carrier, every tree — built or not —,
    every id, with or without `reset`): only the sizes of the routed sub-arrays are stored -/
theorem fill_perm (id : Nat) (rs : Bool) (t : Tree α) :
    ∀ {d d' : List (List α)}, d.Perm d' → fill id rs d t = fill id rs d' t := by
  induction t with
  | nil => intros; rfl
  | leaf c => intro _ _ h; simp [fill, h.length_eq]
  | node a mid c l r ihl ihr =>
    intro _ _ h
    simp only [fill, ihl (h.filter _), ihr (h.filter _), (h.filter _).length_eq]

theorem runFills_perm (t : Tree α) {ops ops' : List (FillOp α)}
    (h : List.Forall₂ (fun a b => a.id = b.id ∧ a.reset = b.reset ∧ a.pts.Perm b.pts) ops ops') :
    runFills t ops = runFills t ops' := by
  induction h generalizing t with
  | nil => rfl
  | @cons a b as bs hab _ ih =>
    obtain ⟨h1, h2, h3⟩ := hab
    simp only [runFills, List.foldl_cons] at ih ⊢
    rw [h1, h2, fill_perm b.id b.reset t h3]
    exact ih _

theorem leafCounts_perm (id : Nat) (rs : Bool) (t : Tree α) {d d' : List (List α)} (h : d.Perm d') (j : Nat) :
    leafCountsD (fill id rs d t) j = leafCountsD (fill id rs d' t) j ∧
    leafCounts? (fill id rs d t) j = leafCounts? (fill id rs d' t) j := by
  rw [fill_perm id rs t h]; exact ⟨rfl, rfl⟩

section kl
variable {γ : Type} [Add γ] [Mul γ] [Div γ] [LT γ] [DecidableLT γ] [LE γ] [DecidableLE γ]
  [NatCast γ] [BEq γ] [HasLogExp γ]

/-- `kl_distance(id1, id2)` after a fill with permuted data: same outcome (`None`, `KeyError` or
    the same value), whatever carrier `γ` the divergence is computed in -/
theorem kl_distance_perm (id : Nat) (rs : Bool) (t : Tree α) {d d' : List (List α)} (h : d.Perm d') (i j : Nat) :
    (klDistance? (fill id rs d t) i j : Res γ) = klDistance? (fill id rs d' t) i j := by
  rw [fill_perm id rs t h]

end kl
end fill

section divergence
variable {α : Type} [Inhabited α] [Add α] [Sub α] [Mul α] [Div α] [LT α] [DecidableLT α]
  [LE α] [DecidableLE α] [NatCast α] [BEq α] [HasLogExp α]

theorem divergence_perm (t : Tree α) {x x' : List (List α)} (h : x.Perm x') (rs : Bool) :
    KdqDet.divergence (fill KdqDet.testId rs x t) = KdqDet.divergence (fill KdqDet.testId rs x' t) := by
  rw [fill_perm _ rs t h]

end divergence

section buildfill
variable {α : Type} [Inhabited α] [Add α] [Sub α] [Mul α] [Div α] [LinearOrder α] [NatCast α]
  [BEq α] [PartialEquivBEq α] [HasTrunc α] [HasLogExp α]

/-- **reference batch and test batch both permuted**: the same tree (or the same `RecursionError`), and
    the same `kl_distance("build", id)` after filing the test batch under any id, with or without reset -/
theorem build_fill_kl_perm (c : Cfg α) (m : Nat) {d d' x x' : List (List α)} (hd : d.Perm d') (hx : x.Perm x')
    (id : Nat) (rs : Bool) :
    build c m d = build c m d' ∧
    (build c m d).map (fun t => (klDistance? (fill id rs x t) 0 id : Res α)) =
      (build c m d').map (fun t => klDistance? (fill id rs x' t) 0 id) := by
  refine ⟨build_perm c m hd, ?_⟩
  rw [← build_perm c m hd]
  cases build c m d with
  | none => rfl
  | some t => simp only [Option.map_some, kl_distance_perm id rs t hx]

end buildfill

end MV.Kdq.C18

namespace MV.KdqDet.C18
open MV MV.Kdq MV.KdqDet MV.C18 MV.Kdq.C18

section rel
variable {α : Type}

/-- **the relation between the states of the original and the row-permuted run.**  `ref_data` (the
    drifted batch that the next `update` turns into the reference) is stored *in row order*, so the
    two runs hold permutations of one another there (or both nothing); every other field — counters,
    drift state, the whole tree with its `"build"` and `"test"` counts, critical value, last
    divergence — is equal.  Equality of states would be false after the first drift. -/
structure BRel (s s' : BState α) : Prop where
  total : s.total = s'.total
  since : s.since = s'.since
  drift : s.drift = s'.drift
  tree : s.tree = s'.tree
  critical : s.critical = s'.critical
  testDist : s.testDist = s'.testDist
  refData : OptRel List.Perm s.refData s'.refData

theorem BRel.refl (s : BState α) : BRel s s :=
  ⟨rfl, rfl, rfl, rfl, rfl, rfl, OptRel.refl List.Perm.refl _⟩

/-- the remembered batches, read the way `update` reads them (`ref_data`, `[]` if absent), are permutations -/
theorem BRel.refData_getD {s s' : BState α} (h : BRel s s') : (s.refData.getD []).Perm (s'.refData.getD []) :=
  match s.refData, s'.refData, h.refData with
  | none, none, _ => List.Perm.refl _
  | some _, some _, h => h

theorem bTick_perm {s s' : BState α} (hs : BRel s s') : BRel (bTick s) (bTick s') :=
  { hs with total := congrArg (· + 1) hs.total, since := congrArg (· + 1) hs.since }

end rel

section defs
variable {α : Type} [Inhabited α] [Add α] [Sub α] [Mul α] [Div α] [LT α] [DecidableLT α]
  [LE α] [DecidableLE α] [NatCast α] [BEq α] [HasLogExp α] [HasRint α] [HasTrunc α]

theorem BRel.symm {s s' : BState α} (h : BRel s s') : BRel s' s :=
  ⟨h.total.symm, h.since.symm, h.drift.symm, h.tree.symm, h.critical.symm, h.testDist.symm,
    h.refData.symm fun _ _ => List.Perm.symm⟩

theorem BRel.trans {s1 s2 s3 : BState α} (h : BRel s1 s2) (h' : BRel s2 s3) : BRel s1 s3 :=
  ⟨h.total.trans h'.total, h.since.trans h'.since, h.drift.trans h'.drift, h.tree.trans h'.tree,
    h.critical.trans h'.critical, h.testDist.trans h'.testDist,
    OptRel.trans (S := List.Perm) (fun _ _ _ => List.Perm.trans) h.refData h'.refData⟩

def StepRel (a b : BState α × Option Bool) : Prop := BRel a.1 b.1 ∧ a.2 = b.2

/-- counting and evaluation of a permuted *test* batch against an existing reference tree: no law needed -/
theorem bCore_perm_tree (c : BCfg α) {s s' : BState α} (hs : BRel s s') (m : Nat) {X X' : List (List α)}
    (h : X.Perm X') (draws : List (List Nat)) {t : Kdq.Tree α} (ht : s.tree = some t) :
    OptRel StepRel (bCore c m s X draws) (bCore c m s' X' draws) := by
  rw [bCore_test c m X draws ht, bCore_test c m X' draws (hs.tree ▸ ht), ← fill_perm testId true t h, ← hs.critical]
  refine ⟨{ bTick_perm hs with drift := by simp only [hs.drift], tree := rfl, testDist := rfl, refData := ?_ }, rfl⟩
  -- the batch just seen is remembered in its own row order
  cases decide (s.critical.getD default < divergence (fill testId true X t))
  · exact hs.refData
  · exact h

/-- **one `update` against an existing reference, permuted test batch — every carrier** (no order law,
    no law on `==`; in particular the executed `Float` instance, NaN or not): when no drift is pending
    and a reference tree is in place, nothing is built in this call, and the two calls yield the same
    event, divergence, decision and tree counts; only the remembered batch is stored in its own order -/
theorem bStep_perm_nobuild (c : BCfg α) {s s' : BState α} (hs : BRel s s') (m : Nat) {X X' : List (List α)}
    (h : X.Perm X') (draws : List (List Nat)) (hd : s.drift ≠ .drift) {t : Kdq.Tree α} (ht : s.tree = some t) :
    ∃ r r', bStep c s m X draws = some r ∧ bStep c s' m X' draws = some r' ∧ StepRel r r' := by
  have := bCore_perm_tree c hs m h draws ht
  rw [bCore_test c m X draws ht, bCore_test c m X' draws (hs.tree ▸ ht)] at this
  exact ⟨_, _, bStep_test c s m X draws t hd ht, bStep_test c s' m X' draws t (hs.drift ▸ hd) (hs.tree ▸ ht), this⟩

/-- a public call on `KdqTreeBatch` (after validation), with the bootstrap draws it consumes -/
inductive BOp (α : Type) where
  | setRef (m : Nat) (data : List (List α)) (draws : List (List Nat))
  | update (m : Nat) (X : List (List α)) (draws : List (List Nat))

/-- the same call with a row-permuted batch and the same draws -/
def OpRel : BOp α → BOp α → Prop
  | .setRef m d w, .setRef m' d' w' => m = m' ∧ d.Perm d' ∧ w = w'
  | .update m d w, .update m' d' w' => m = m' ∧ d.Perm d' ∧ w = w'
  | _, _ => False

def bApply (c : BCfg α) (s : BState α) : BOp α → Option (BState α × Option Bool)
  | .setRef m d w => (bSetRef c s m d w).map (fun s => (s, none))
  | .update m X w => bStep c s m X w

/-- everything observable after a call: the event (`some true` = the batch exceeded the critical
    value), `drift_state`, the counters, the divergence, the critical value, the tree with all counts -/
structure Obs (α : Type) where
  event : Option Bool
  drift : Drift
  total : Nat
  since : Nat
  testDist : Option α
  critical : Option α
  tree : Option (Kdq.Tree α)

def obsOf (r : BState α × Option Bool) : Obs α :=
  { event := r.2, drift := r.1.drift, total := r.1.total, since := r.1.since, testDist := r.1.testDist,
    critical := r.1.critical, tree := r.1.tree }

/-- final state of a history; `none` when some call hit the recursion limit -/
def bRun (c : BCfg α) : BState α → List (BOp α) → Option (BState α)
  | s, [] => some s
  | s, op :: ops =>
    match bApply c s op with
    | none => none
    | some r => bRun c r.1 ops

/-- the observables after every call, up to and including the first call that hits the recursion
    limit (`none`; a Python `RecursionError` leaves the object half-updated, nothing is claimed after it) -/
def bTrace (c : BCfg α) : BState α → List (BOp α) → List (Option (Obs α))
  | _, [] => []
  | s, op :: ops =>
    match bApply c s op with
    | none => [none]
    | some r => some (obsOf r) :: bTrace c r.1 ops

def bDecisions (c : BCfg α) (s : BState α) (ops : List (BOp α)) : List (Option Drift) :=
  (bTrace c s ops).map (fun o => o.map (·.drift))

def bDivergences (c : BCfg α) (s : BState α) (ops : List (BOp α)) : List (Option (Option α)) :=
  (bTrace c s ops).map (fun o => o.map (·.testDist))

theorem bRun_cons (c : BCfg α) (s : BState α) (op : BOp α) (ops : List (BOp α)) :
    bRun c s (op :: ops) = (bApply c s op).bind fun r => bRun c r.1 ops := by
  rw [bRun]; cases bApply c s op <;> rfl

theorem obsOf_perm {r r' : BState α × Option Bool} (h : StepRel r r') : obsOf r = obsOf r' := by
  simp [obsOf, h.2, h.1.drift, h.1.total, h.1.since, h.1.testDist, h.1.critical, h.1.tree]

end defs

section batch
variable {α : Type} [Inhabited α] [Add α] [Sub α] [Mul α] [Div α] [LinearOrder α] [NatCast α]
  [BEq α] [PartialEquivBEq α] [HasLogExp α] [HasRint α] [HasTrunc α]

/-- **`set_reference` / adoption of a reference, permuted rows, same bootstrap draws**: both calls are
    accepted or both hit the recursion limit; the results are related — in particular the same tree
    and the same critical value (it depends on the leaf counts and the draws only) -/
theorem bSetRef_perm (c : BCfg α) {s s' : BState α} (hs : BRel s s') (m : Nat) {d d' : List (List α)}
    (h : d.Perm d') (draws : List (List Nat)) :
    OptRel BRel (bSetRef c s m d draws) (bSetRef c s' m d' draws) := by
  rw [bSetRef_eq, bSetRef_eq, ← build_perm c.part m h]
  cases build c.part m d with
  | none => exact True.intro
  | some t => exact ⟨hs.total, rfl, rfl, rfl, rfl, rfl, hs.refData⟩

theorem bSetRef_perm_observables (c : BCfg α) {s s' : BState α} (hs : BRel s s') (m : Nat) {d d' : List (List α)}
    (h : d.Perm d') (draws : List (List Nat)) {r : BState α} (hr : bSetRef c s m d draws = some r) :
    ∃ r', bSetRef c s' m d' draws = some r' ∧ r'.tree = r.tree ∧ r'.critical = r.critical ∧ r'.drift = r.drift ∧
      r'.testDist = r.testDist ∧ r'.total = r.total ∧ r'.since = r.since ∧ OptRel List.Perm r.refData r'.refData := by
  obtain ⟨r', h', hb⟩ := (bSetRef_perm c hs m h draws).of_some hr
  exact ⟨r', h', hb.tree.symm, hb.critical.symm, hb.drift.symm, hb.testDist.symm, hb.total.symm, hb.since.symm,
    hb.refData⟩

theorem bCore_perm (c : BCfg α) {s s' : BState α} (hs : BRel s s') (m : Nat) {X X' : List (List α)}
    (h : X.Perm X') (draws : List (List Nat)) :
    OptRel StepRel (bCore c m s X draws) (bCore c m s' X' draws) := by
  cases ht : s.tree with
  | some t => exact bCore_perm_tree c hs m h draws ht
  | none =>
    rw [bCore_install c m X draws ht, bCore_install c m X' draws (hs.tree ▸ ht)]
    exact (bSetRef_perm c (bTick_perm hs) m h draws).map fun _ _ h => ⟨h, rfl⟩

/-- **one `KdqTreeBatch.update`, permuted batch, same draws, related states** (the state may carry a
    pending drift: then the remembered drifted batch — a permutation in the other run — first becomes
    the reference): both calls are accepted or both hit the recursion limit; the same event (reference
    adopted / exceeded / not exceeded) and related states — equal tree, equal critical value, equal
    divergence and drift state, remembered batches permutations of one another -/
theorem bStep_perm (c : BCfg α) {s s' : BState α} (hs : BRel s s') (m : Nat) {X X' : List (List α)}
    (h : X.Perm X') (draws : List (List Nat)) :
    OptRel StepRel (bStep c s m X draws) (bStep c s' m X' draws) := by
  rw [bStep_eq, bStep_eq]
  refine OptRel.bind (R := BRel) ?_ fun _ _ h0 => bCore_perm c h0 m h draws
  by_cases hd : s.drift = .drift
  · rw [bPre_drift c m draws hd, bPre_drift c m draws (hs.drift ▸ hd)]
    exact bSetRef_perm c hs m hs.refData_getD draws
  · rw [bPre_quiet c m draws hd, bPre_quiet c m draws (hs.drift ▸ hd)]
    exact hs

theorem bStep_perm_observables (c : BCfg α) {s s' : BState α} (hs : BRel s s') (m : Nat) {X X' : List (List α)}
    (h : X.Perm X') (draws : List (List Nat)) {r : BState α × Option Bool} (hr : bStep c s m X draws = some r) :
    ∃ r', bStep c s' m X' draws = some r' ∧ r'.2 = r.2 ∧ r'.1.drift = r.1.drift ∧ r'.1.testDist = r.1.testDist ∧
      r'.1.critical = r.1.critical ∧ r'.1.tree = r.1.tree ∧ r'.1.total = r.1.total ∧ r'.1.since = r.1.since ∧
      OptRel List.Perm r.1.refData r'.1.refData := by
  obtain ⟨r', h', hb, he⟩ := (bStep_perm c hs m h draws).of_some hr
  exact ⟨r', h', he.symm, hb.drift.symm, hb.testDist.symm, hb.critical.symm, hb.tree.symm, hb.total.symm,
    hb.since.symm, hb.refData⟩

theorem bApply_perm (c : BCfg α) {s s' : BState α} (hs : BRel s s') {op op' : BOp α} (ho : OpRel op op') :
    OptRel StepRel (bApply c s op) (bApply c s' op') :=
  match op, op', ho with
  | .setRef .., .setRef .., ⟨rfl, hd, rfl⟩ => (bSetRef_perm c hs _ hd _).map fun _ _ h => ⟨h, rfl⟩
  | .update .., .update .., ⟨rfl, hd, rfl⟩ => bStep_perm c hs _ hd _

/-- **whole histories, final states**: the relation is preserved by every call (`set_reference`,
    `update`, the `update` after a drift that adopts the drifted batch) -/
theorem bRun_perm (c : BCfg α) {s s' : BState α} {ops ops' : List (BOp α)} (hs : BRel s s')
    (ho : List.Forall₂ OpRel ops ops') : OptRel BRel (bRun c s ops) (bRun c s' ops') := by
  induction ho generalizing s s' with
  | nil => exact hs
  | @cons op op' ops ops' hop _ ih =>
    rw [bRun_cons, bRun_cons]
    exact (bApply_perm c hs hop).bind fun _ _ h => ih h.1

/-- **C18 for KdqTreeBatch**: two histories whose i-th calls are the same call on row-permuted batches
    (reference batches included) with the same bootstrap draws, started in related states (e.g. both
    fresh), show the same observables after every call: event, drift state, counters, divergence,
    critical value, tree and counts; they hit the recursion limit at the same call or not at all -/
theorem kdqBatch_trace_perm (c : BCfg α) {s s' : BState α} {ops ops' : List (BOp α)} (hs : BRel s s')
    (ho : List.Forall₂ OpRel ops ops') : bTrace c s ops = bTrace c s' ops' := by
  induction ho generalizing s s' with
  | nil => rfl
  | @cons op op' ops ops' hop _ ih =>
    obtain ⟨e, e'⟩ | ⟨r, r', e, e', h⟩ := (bApply_perm c hs hop).cases
    · simp only [bTrace, e, e']
    · simp only [bTrace, e, e', obsOf_perm h, ih h.1]

theorem kdqBatch_decisions_perm (c : BCfg α) {s s' : BState α} {ops ops' : List (BOp α)} (hs : BRel s s')
    (ho : List.Forall₂ OpRel ops ops') :
    bDecisions c s ops = bDecisions c s' ops' ∧ bDivergences c s ops = bDivergences c s' ops' := by
  unfold bDecisions bDivergences
  rw [kdqBatch_trace_perm c hs ho]
  exact ⟨rfl, rfl⟩

theorem kdqBatch_fresh_perm (c : BCfg α) {ops ops' : List (BOp α)} (ho : List.Forall₂ OpRel ops ops') :
    bTrace c bInit ops = bTrace c bInit ops' :=
  kdqBatch_trace_perm c (BRel.refl _) ho

end batch

end MV.KdqDet.C18
