/-
  C12 — an ensemble is its election applied to members that run exactly as if alone.

  Everything below is proved for EVERY list of member machines (arbitrary state
  types, transition functions, selectors, acceptance behaviour), every election,
  every initial state and every sequence of update / reset / set_reference calls.
  No arithmetic on data is involved, so the statements hold verbatim for the
  instance executed by `mdriver`.

  Calls may be rejected (a member raises).  The theorems come in two layers:
  the general ones say exactly which calls reach which member (`delivered`), the
  headline ones are their specialisation to histories in which every call returns
  normally (`Accepted`) — the situation the property text speaks about.
-/
import MenelausVerif.Model.Ensemble
namespace MV.Ensemble
open MV MV.Election

variable {X Y : Type}

/-- does the loop get as far as position `i` — did every member before `i` return normally? -/
def reached (f : (m : Member X Y) → m.σ → m.σ × Bool) : (ms : List (Member X Y)) → States ms → Nat → Bool
  | _, _, 0 => true
  | [], _, _ + 1 => true
  | m :: ms, st, i + 1 => (f m st.1).2 && reached f ms st.2 i

theorem reached_iff (f : (m : Member X Y) → m.σ → m.σ × Bool) (ms : List (Member X Y)) (st : States ms) (i : Nat) :
    reached f ms st i = true ↔
      ∀ j : Fin ms.length, j.val < i → (f (ms.get j) (States.get ms st j)).2 = true := by
  induction ms generalizing i with
  | nil => cases i <;> simp [reached]
  | cons m ms ih =>
    cases i with
    | zero => simp [reached]
    | succ i =>
      simp only [reached, Bool.and_eq_true, ih st.2 i]
      constructor
      · rintro ⟨h0, hr⟩ ⟨j, hj⟩ hji
        cases j with
        | zero => exact h0
        | succ j => exact hr ⟨j, Nat.lt_of_succ_lt_succ hj⟩ (Nat.lt_of_succ_lt_succ hji)
      · intro h
        refine ⟨h ⟨0, Nat.succ_pos _⟩ (Nat.succ_pos _), fun j hj => ?_⟩
        exact h ⟨j.val + 1, Nat.succ_lt_succ j.isLt⟩ (Nat.succ_lt_succ hj)

theorem reached_mono (f : (m : Member X Y) → m.σ → m.σ × Bool) (ms : List (Member X Y)) (st : States ms)
    {i j : Nat} (hij : i ≤ j) (h : reached f ms st j = true) : reached f ms st i = true := by
  rw [reached_iff] at h ⊢
  exact fun k hk => h k (Nat.lt_of_lt_of_le hk hij)

/-- **fan-out.**  After the loop, a member that was reached is in the state its own call leaves it in
    (called with the input *its* selector picks); a member that was not reached is untouched. -/
theorem loop_member (f : (m : Member X Y) → m.σ → m.σ × Bool) (ms : List (Member X Y)) (st : States ms)
    (i : Fin ms.length) :
    States.get ms (loopAll f ms st).1 i
      = if reached f ms st i then (f (ms.get i) (States.get ms st i)).1 else States.get ms st i := by
  induction ms with
  | nil => exact i.elim0
  | cons m ms ih =>
    obtain ⟨i, hi⟩ := i
    rw [loopAll]
    cases i with
    | zero => cases (f m st.1).2 <;> rfl
    | succ i =>
      show _ = if ((f m st.1).2 && reached f ms st.2 i) = true then _ else _
      cases (f m st.1).2
      · rfl   -- `m` raised: the loop stops, the later members keep their state
      · exact ih st.2 ⟨i, Nat.lt_of_succ_lt_succ hi⟩

/-- the loop runs to completion iff every member returned normally -/
theorem loop_completed (f : (m : Member X Y) → m.σ → m.σ × Bool) (ms : List (Member X Y)) (st : States ms) :
    (loopAll f ms st).2 = reached f ms st ms.length := by
  induction ms with
  | nil => rfl
  | cons m ms ih =>
    show _ = ((f m st.1).2 && reached f ms st.2 ms.length)
    rw [← ih st.2, loopAll]
    cases (f m st.1).2 <;> rfl

variable {ms : List (Member X Y)}

/-- does call `op` on the ensemble in state `s` reach member number `i`? -/
def State.reaches (s : State ms) (op : Op X Y) (i : Nat) : Bool := reached (callOf op) ms s.mem i

theorem completes_eq (s : State ms) (op : Op X Y) : s.completes op = s.reaches op ms.length :=
  loop_completed _ ms s.mem

theorem reaches_zero (s : State ms) (op : Op X Y) : s.reaches op 0 = true := by
  cases ms <;> rfl

theorem reaches_of_completes (s : State ms) (op : Op X Y) (h : s.completes op = true) (i : Fin ms.length) :
    s.reaches op i = true :=
  reached_mono _ ms s.mem (Nat.le_of_lt i.isLt) (by rwa [completes_eq] at h)

/-- `reset` never stops half-way -/
theorem reset_completes (s : State ms) : s.completes .reset = true := by
  rw [completes_eq, State.reaches, reached_iff]
  intro j _; rfl

theorem apply_eq (s : State ms) (op : Op X Y) :
    s.apply op = if s.completes op then s.finish (loopAll (callOf op) ms s.mem).1 op
      else { s with mem := (loopAll (callOf op) ms s.mem).1 } := rfl

theorem apply_mem (s : State ms) (op : Op X Y) : (s.apply op).mem = (loopAll (callOf op) ms s.mem).1 := by
  rw [apply_eq]
  split
  · cases op <;> rfl
  · rfl

/-- one ensemble call, seen from member `i`: the same call on the member alone, on the input its
    selector picks — if the loop got that far; nothing otherwise.  (`update_fanout`,
    `reset_fanout`, `set_reference_fanout` in one.) -/
theorem apply_member (s : State ms) (op : Op X Y) (i : Fin ms.length) :
    States.get ms (s.apply op).mem i
      = if s.reaches op i then (ms.get i).apply (States.get ms s.mem i) (op.map (ms.get i).sel)
        else States.get ms s.mem i := by
  rw [apply_mem, loop_member]; rfl

/-- `reset()` reaches every member -/
theorem reset_fanout (s : State ms) (i : Fin ms.length) :
    States.get ms (s.apply .reset).mem i = (ms.get i).reset (States.get ms s.mem i) := by
  rw [apply_member, reaches_of_completes s .reset (reset_completes s) i]; rfl

/-- an accepted `update` reaches every member, each with the columns its own selector picks -/
theorem update_fanout (s : State ms) (x : X) (y : Y) (h : s.completes (.update x y) = true) (i : Fin ms.length) :
    States.get ms (s.apply (.update x y)).mem i
      = ((ms.get i).step (States.get ms s.mem i) ((ms.get i).sel x) y).1 := by
  rw [apply_member, reaches_of_completes s _ h i]; rfl

/-- an accepted `set_reference` reaches every member, each with the columns its own selector picks -/
theorem set_reference_fanout (s : State ms) (x : X) (y : Y) (h : s.completes (.setRef x y) = true)
    (i : Fin ms.length) :
    States.get ms (s.apply (.setRef x y)).mem i
      = ((ms.get i).setRef (States.get ms s.mem i) ((ms.get i).sel x) y).1 := by
  rw [apply_member, reaches_of_completes s _ h i]; rfl

/-- a call during which some member raises leaves everything of the ensemble itself as it was:
    election not consulted, verdict stale, counters not moved -/
theorem rejected_call_own_state (s : State ms) (op : Op X Y) (h : s.completes op = false) :
    (s.apply op).elec = s.elec ∧ (s.apply op).drift = s.drift ∧ (s.apply op).total = s.total
      ∧ (s.apply op).since = s.since := by
  rw [apply_eq, h]
  exact ⟨rfl, rfl, rfl, rfl⟩

/-- the calls of a history that actually reach member number `i` -/
def delivered : State ms → List (Op X Y) → Nat → List (Op X Y)
  | _, [], _ => []
  | s, op :: ops, i =>
    if s.reaches op i then op :: delivered (s.apply op) ops i else delivered (s.apply op) ops i

/-- every call of the history returns normally -/
def Accepted : State ms → List (Op X Y) → Prop
  | _, [] => True
  | s, op :: ops => s.completes op = true ∧ Accepted (s.apply op) ops

theorem run_cons (s : State ms) (op : Op X Y) (ops : List (Op X Y)) : run s (op :: ops) = run (s.apply op) ops := rfl

theorem run_singleton (s : State ms) (op : Op X Y) : run s [op] = s.apply op := rfl

theorem run_append (s : State ms) (a b : List (Op X Y)) : run s (a ++ b) = run (run s a) b :=
  List.foldl_append

/-- general form: member `i` is in the state it reaches when run on its own over exactly the calls that
    reached it (each `X` replaced by the columns its selector picks) -/
theorem member_runs_alone_general (s : State ms) (ops : List (Op X Y)) (i : Fin ms.length) :
    States.get ms (run s ops).mem i
      = (ms.get i).alone (States.get ms s.mem i) ((delivered s ops i).map (Op.map (ms.get i).sel)) := by
  induction ops generalizing s with
  | nil => rfl
  | cons op ops ih =>
    rw [run_cons, ih, apply_member, delivered]
    cases s.reaches op i <;> rfl

theorem delivered_of_accepted (s : State ms) (ops : List (Op X Y)) (h : Accepted s ops) (i : Fin ms.length) :
    delivered s ops i = ops := by
  induction ops generalizing s with
  | nil => rfl
  | cons op ops ih => rw [delivered, reaches_of_completes s op h.1 i, if_pos rfl, ih _ h.2]

/-- every call, accepted or not, reaches the first member -/
theorem delivered_first (s : State ms) (ops : List (Op X Y)) : delivered s ops 0 = ops := by
  induction ops generalizing s with
  | nil => rfl
  | cons op ops ih => rw [delivered, reaches_zero, if_pos rfl, ih]

/-- **member_runs_alone.**  After the ensemble processed `ops` (all returning normally), member `i` is in the
    state machine `i` reaches when run on its own over the same calls, each `X` replaced by the
    columns its selector picks.  (Nothing else enters: not the other members, not the election,
    not the ensemble's verdict or counters.) -/
theorem member_runs_alone (s : State ms) (ops : List (Op X Y)) (h : Accepted s ops) (i : Fin ms.length) :
    States.get ms (run s ops).mem i
      = (ms.get i).alone (States.get ms s.mem i) (ops.map (Op.map (ms.get i).sel)) := by
  rw [member_runs_alone_general, delivered_of_accepted s ops h i]

/-- a selector does not leak columns: two accepted histories that look the same through member `i`'s
    selector leave member `i` in the same state -/
theorem no_column_leak (s : State ms) (ops ops' : List (Op X Y)) (i : Fin ms.length)
    (ha : Accepted s ops) (ha' : Accepted s ops')
    (h : ops.map (Op.map (ms.get i).sel) = ops'.map (Op.map (ms.get i).sel)) :
    States.get ms (run s ops).mem i = States.get ms (run s ops').mem i := by
  rw [member_runs_alone s ops ha, member_runs_alone s ops' ha', h]

/-- member `i` depends on nothing but its own initial state: another election (or election state),
    other counters, other states of the other members change nothing, as long as the calls are accepted -/
theorem member_independent_of_rest (s s' : State ms) (ops : List (Op X Y)) (i : Fin ms.length)
    (ha : Accepted s ops) (ha' : Accepted s' ops)
    (h : States.get ms s.mem i = States.get ms s'.mem i) :
    States.get ms (run s ops).mem i = States.get ms (run s' ops).mem i := by
  rw [member_runs_alone s ops ha, member_runs_alone s' ops ha', h]

theorem ofFn_states_cons {β : Type} (g : (m : Member X Y) → m.σ → β) (m : Member X Y) (ms : List (Member X Y))
    (st : States (m :: ms)) :
    List.ofFn (fun i : Fin (m :: ms).length => g ((m :: ms).get i) (States.get (m :: ms) st i))
      = g m st.1 :: List.ofFn (fun i : Fin ms.length => g (ms.get i) (States.get ms st.2 i)) :=
  List.ofFn_succ

theorem votes_eq (ms : List (Member X Y)) (st : States ms) :
    votes ms st = List.ofFn (fun i : Fin ms.length => (ms.get i).drift (States.get ms st i)) := by
  induction ms with
  | nil => rfl
  | cons m ms ih => rw [ofFn_states_cons (fun m s => m.drift s), ← ih]; rfl

/-- `drift_states`: one entry per member, in insertion order, keyed by name, value = the member's `drift_state` -/
theorem drift_states_view (ms : List (Member X Y)) (st : States ms) :
    driftStates ms st
      = List.ofFn (fun i : Fin ms.length => ((ms.get i).name, (ms.get i).drift (States.get ms st i))) := by
  induction ms with
  | nil => rfl
  | cons m ms ih => rw [ofFn_states_cons (fun m s => (m.name, m.drift s)), ← ih]; rfl

/-- `retraining_recs`: the members that have the attribute, in insertion order, with their value; the others omitted -/
theorem retraining_recs_view (ms : List (Member X Y)) (st : States ms) :
    retrainingRecs ms st
      = (List.ofFn (fun i : Fin ms.length =>
          ((ms.get i).recs (States.get ms st i)).map (fun r => ((ms.get i).name, r)))).filterMap id := by
  induction ms with
  | nil => rfl
  | cons m ms ih =>
    rw [ofFn_states_cons (fun m s => (m.recs s).map (fun r => (m.name, r))), List.filterMap_cons, ← ih,
      retrainingRecs]
    cases m.recs st.1 <;> rfl

theorem drift_states_after (s : State ms) (ops : List (Op X Y)) (h : Accepted s ops) :
    driftStates ms (run s ops).mem
      = List.ofFn (fun i : Fin ms.length => ((ms.get i).name,
          (ms.get i).drift ((ms.get i).alone (States.get ms s.mem i) (ops.map (Op.map (ms.get i).sel))))) := by
  rw [drift_states_view]
  congr 1; funext i; rw [member_runs_alone s ops h]

theorem retraining_recs_after (s : State ms) (ops : List (Op X Y)) (h : Accepted s ops) :
    retrainingRecs ms (run s ops).mem
      = (List.ofFn (fun i : Fin ms.length =>
          ((ms.get i).recs ((ms.get i).alone (States.get ms s.mem i) (ops.map (Op.map (ms.get i).sel)))).map
            (fun r => ((ms.get i).name, r)))).filterMap id := by
  rw [retraining_recs_view]
  congr 2; funext i; rw [member_runs_alone s ops h]

theorem key_mem_names {β : Type} (g : (m : Member X Y) → m.σ → Option β) (ms : List (Member X Y))
    (st : States ms) (p : String × β)
    (hp : p ∈ (List.ofFn fun i : Fin ms.length =>
        (g (ms.get i) (States.get ms st i)).map fun r => ((ms.get i).name, r)).filterMap id) :
    p.1 ∈ ms.map (·.name) := by
  obtain ⟨o, ho, rfl : o = some p⟩ := List.mem_filterMap.1 hp
  obtain ⟨j, hj⟩ := List.mem_ofFn.1 ho
  obtain ⟨r, _, rfl⟩ := Option.map_eq_some_iff.1 hj
  exact List.mem_map.2 ⟨_, List.get_mem ms j, rfl⟩

/-- dict semantics: a dict built from the members in order, a member contributing its name as key when
    it has a value; with distinct names, looking up member `i`'s name gives member `i`'s value (or nothing) -/
theorem lookup_members {β : Type} (g : (m : Member X Y) → m.σ → Option β) (ms : List (Member X Y))
    (st : States ms) (hnd : (ms.map (·.name)).Nodup) (i : Fin ms.length) :
    ((List.ofFn fun i : Fin ms.length =>
        (g (ms.get i) (States.get ms st i)).map fun r => ((ms.get i).name, r)).filterMap id).lookup (ms.get i).name
      = g (ms.get i) (States.get ms st i) := by
  induction ms with
  | nil => exact i.elim0
  | cons m ms ih =>
    rw [ofFn_states_cons (fun m s => (g m s).map fun r => (m.name, r)), List.filterMap_cons]
    rw [List.map_cons, List.nodup_cons] at hnd
    cases i using Fin.cases with
    | zero =>
      show List.lookup m.name _ = g m st.1
      cases g m st.1 with
      | some r => exact List.lookup_cons_self
      | none =>
        exact List.lookup_eq_none_iff.2 fun p hp =>
          bne_iff_ne.2 fun e => hnd.1 (e ▸ key_mem_names g ms st.2 p hp)
    | succ i =>
      show List.lookup (ms.get i).name _ = g (ms.get i) (States.get ms st.2 i)
      have hne : ((ms.get i).name == m.name) = false :=
        beq_false_of_ne fun e => hnd.1 (e ▸ List.mem_map.2 ⟨_, List.get_mem ms i, rfl⟩)
      cases g m st.1 with
      | none => exact ih st.2 hnd.2 i
      | some r => exact (List.lookup_cons.trans (by rw [hne])).trans (ih st.2 hnd.2 i)

theorem drift_states_lookup (ms : List (Member X Y)) (st : States ms) (hnd : (ms.map (·.name)).Nodup)
    (i : Fin ms.length) :
    (driftStates ms st).lookup (ms.get i).name = some ((ms.get i).drift (States.get ms st i)) := by
  have h := lookup_members (fun m s => some (m.drift s)) ms st hnd i
  have e : (List.ofFn fun i : Fin ms.length =>
      (some ((ms.get i).drift (States.get ms st i))).map fun r => ((ms.get i).name, r))
      = (driftStates ms st).map some := by rw [drift_states_view, List.map_ofFn]; rfl
  rwa [e, List.filterMap_map, Function.id_comp, List.filterMap_some] at h

/-- with distinct member names, `retraining_recs[name i]` is member `i`'s value, and the key is
    absent exactly when the member has no such attribute -/
theorem retraining_recs_lookup (ms : List (Member X Y)) (st : States ms) (hnd : (ms.map (·.name)).Nodup)
    (i : Fin ms.length) :
    (retrainingRecs ms st).lookup (ms.get i).name = (ms.get i).recs (States.get ms st i) := by
  rw [retraining_recs_view]; exact lookup_members (fun m s => m.recs s) ms st hnd i

theorem accepted_append (s : State ms) (a b : List (Op X Y)) :
    Accepted s (a ++ b) ↔ Accepted s a ∧ Accepted (run s a) b := by
  induction a generalizing s with
  | nil => simp [Accepted, run]
  | cons op a ih =>
    simp only [List.cons_append, Accepted, ih, run_cons, and_assoc]

/-- the `drift_state`s, in insertion order, of the member machines run independently over `ops` -/
def aloneVotes (ms : List (Member X Y)) (mem : States ms) (ops : List (Op X Y)) : List Drift :=
  List.ofFn fun i : Fin ms.length =>
    (ms.get i).drift ((ms.get i).alone (States.get ms mem i) (ops.map (Op.map (ms.get i).sel)))

theorem votes_run (s : State ms) (ops : List (Op X Y)) (h : Accepted s ops) :
    votes ms (run s ops).mem = aloneVotes ms s.mem ops := by
  rw [votes_eq]; unfold aloneVotes
  congr 1; funext i; rw [member_runs_alone s ops h]

theorem apply_of_completes (s : State ms) (op : Op X Y) (h : s.completes op = true) :
    s.apply op = s.finish (s.apply op).mem op := by
  rw [apply_mem, apply_eq, if_pos h]

theorem run_update (s : State ms) (ops : List (Op X Y)) (x : X) (y : Y) (h : Accepted s (ops ++ [.update x y])) :
    run s (ops ++ [.update x y]) = (run s ops).finish (run s (ops ++ [.update x y])).mem (.update x y) := by
  rw [run_append]
  exact apply_of_completes _ _ ((accepted_append s ops _).mp h).2.1

/-- **verdict.**  After an (accepted) update, the ensemble's `drift_state` is its election — in the state the
    earlier calls left it in — applied to the drift states, in insertion order, that the members
    have when each is run alone over the whole history including this update. -/
theorem verdict (s : State ms) (ops : List (Op X Y)) (x : X) (y : Y) (h : Accepted s (ops ++ [.update x y])) :
    (run s (ops ++ [.update x y])).drift
      = ((run s ops).elec.call (aloneVotes ms s.mem (ops ++ [.update x y]))).1 := by
  rw [run_update s ops x y h, ← votes_run s _ h]; rfl

theorem elec_after_update (s : State ms) (ops : List (Op X Y)) (x : X) (y : Y)
    (h : Accepted s (ops ++ [.update x y])) :
    (run s (ops ++ [.update x y])).elec
      = ((run s ops).elec.call (aloneVotes ms s.mem (ops ++ [.update x y]))).2 := by
  rw [run_update s ops x y h, ← votes_run s _ h]; rfl

/-- `reset`: verdict back to `None`, since-counter to 0, total and the election object
    (ConfirmedElection's wait counters!) untouched -/
theorem after_reset (s : State ms) (ops : List (Op X Y)) :
    let r := run s (ops ++ [.reset])
    r.drift = .none ∧ r.since = 0 ∧ r.total = (run s ops).total ∧ r.elec = (run s ops).elec := by
  simp only [run_append, run_singleton]
  rw [apply_eq, reset_completes]
  exact ⟨rfl, rfl, rfl, rfl⟩

/-- `set_reference` touches nothing of the ensemble itself (whether or not a member rejects it) -/
theorem after_set_reference (s : State ms) (ops : List (Op X Y)) (x : X) (y : Y) :
    let r := run s (ops ++ [.setRef x y])
    r.drift = (run s ops).drift ∧ r.since = (run s ops).since ∧ r.total = (run s ops).total
      ∧ r.elec = (run s ops).elec := by
  simp only [run_append, run_singleton]
  rw [apply_eq]
  split <;> exact ⟨rfl, rfl, rfl, rfl⟩

def Elec.feed (e : Elec) (bs : List (List Drift)) : Elec := bs.foldl (fun e vs => (e.call vs).2) e

/- `Elec.call` election by election, and a fed ConfirmedElection: through these the theorems of
   Props/C13.lean (about `simpleMajority`, `minApproval`, `ordered`, `Confirmed.call`) apply to `verdict`
   and `election_history`. -/
theorem Elec.call_majority (vs : List Drift) : Elec.majority.call vs = (simpleMajority vs, .majority) := rfl

theorem Elec.call_minApproval (a : Nat) (vs : List Drift) :
    (Elec.minApproval a).call vs = (Election.minApproval a vs, .minApproval a) := rfl

theorem Elec.call_ordered (a c : Nat) (vs : List Drift) :
    (Elec.ordered a c).call vs = (Election.ordered a c vs, .ordered a c) := rfl

theorem Elec.call_confirmed (e : Confirmed) (vs : List Drift) :
    (Elec.confirmed e).call vs = ((e.call vs).1, .confirmed (e.call vs).2) := rfl

theorem Elec.feed_confirmed (e : Confirmed) (bs : List (List Drift)) :
    (Elec.confirmed e).feed bs = .confirmed (bs.foldl (fun e vs => (e.call vs).2) e) := by
  induction bs generalizing e with
  | nil => rfl
  | cons vs bs ih => exact ih _

/-- the vote vectors an election gets to see over a history: one per `update`, made of the drift
    states the independently run members have right after that update (`pre` = calls already made) -/
def ballots (ms : List (Member X Y)) (mem : States ms) : List (Op X Y) → List (Op X Y) → List (List Drift)
  | _, [] => []
  | pre, .update x y :: ops =>
    aloneVotes ms mem (pre ++ [.update x y]) :: ballots ms mem (pre ++ [.update x y]) ops
  | pre, .reset :: ops => ballots ms mem (pre ++ [.reset]) ops
  | pre, .setRef x y :: ops => ballots ms mem (pre ++ [.setRef x y]) ops

theorem election_history_aux (s : State ms) (pre ops : List (Op X Y)) (h : Accepted s (pre ++ ops)) :
    (run s (pre ++ ops)).elec = (run s pre).elec.feed (ballots ms s.mem pre ops) := by
  induction ops generalizing pre with
  | nil => simp [ballots, Elec.feed]
  | cons op ops ih =>
    rw [List.append_cons] at h ⊢
    have hpre : Accepted s (pre ++ [op]) := ((accepted_append s _ _).mp h).1
    rw [ih (pre ++ [op]) h]
    cases op with
    | update x y =>
      rw [elec_after_update s pre x y hpre]
      simp [ballots, Elec.feed]
    | reset => rw [(after_reset s pre).2.2.2]; simp [ballots]
    | setRef x y => rw [(after_set_reference s pre x y).2.2.2]; simp [ballots]

/-- **election_history.**  The election object after any accepted history is the initial one fed, in order,
    with one vote vector per update — each made of independently run members' states; resets and
    set_reference calls contribute nothing (a ConfirmedElection keeps waiting across `reset`). -/
theorem election_history (s : State ms) (ops : List (Op X Y)) (h : Accepted s ops) :
    (run s ops).elec = s.elec.feed (ballots ms s.mem [] ops) :=
  election_history_aux s [] ops h

/-- number of update calls of a history that returned normally -/
def completedUpdates : State ms → List (Op X Y) → Nat
  | _, [] => 0
  | s, op :: ops => (if op.isUpdate && s.completes op then 1 else 0) + completedUpdates (s.apply op) ops

theorem completedUpdates_of_accepted (s : State ms) (ops : List (Op X Y)) (h : Accepted s ops) :
    completedUpdates s ops = ops.countP Op.isUpdate := by
  induction ops generalizing s with
  | nil => rfl
  | cons op ops ih =>
    obtain ⟨h1, h2⟩ := h
    simp only [completedUpdates, h1, Bool.and_true, ih _ h2, List.countP_cons]
    omega

/-- the ensemble's two counters after one call: a completed update moves both, `reset` (which always
    completes) restarts `since`, nothing else touches them -/
theorem apply_counters (s : State ms) (op : Op X Y) :
    (s.apply op).total = s.total + (if op.isUpdate && s.completes op then 1 else 0) ∧
    (s.apply op).since =
      if op.isReset then 0 else s.since + (if op.isUpdate && s.completes op then 1 else 0) := by
  rw [apply_eq]
  cases op with
  | reset => rw [reset_completes]; exact ⟨rfl, rfl⟩
  | update x y => cases s.completes (.update x y) <;> exact ⟨rfl, rfl⟩
  | setRef x y => cases s.completes (.setRef x y) <;> exact ⟨rfl, rfl⟩

/-- `total` counts exactly the updates that returned normally (a rejected update is not counted) -/
theorem total_counts_completed_updates (s : State ms) (ops : List (Op X Y)) :
    (run s ops).total = s.total + completedUpdates s ops := by
  induction ops generalizing s with
  | nil => rfl
  | cons op ops ih => rw [run_cons, ih, (apply_counters s op).1, completedUpdates, Nat.add_assoc]

theorem total_counts_updates (s : State ms) (ops : List (Op X Y)) (h : Accepted s ops) :
    (run s ops).total = s.total + ops.countP Op.isUpdate := by
  rw [total_counts_completed_updates, completedUpdates_of_accepted s ops h]

/-- no automatic restart: as long as nobody calls `reset`, `since_reset` counts every completed update,
    whatever verdicts the election produced on the way -/
theorem since_without_reset_general (s : State ms) (ops : List (Op X Y)) (h : ∀ op ∈ ops, op.isReset = false) :
    (run s ops).since = s.since + completedUpdates s ops := by
  induction ops generalizing s with
  | nil => rfl
  | cons op ops ih =>
    rw [run_cons, ih _ fun o ho => h o (List.mem_cons_of_mem _ ho), (apply_counters s op).2,
      h op List.mem_cons_self, if_neg Bool.false_ne_true, completedUpdates, Nat.add_assoc]

theorem since_without_reset (s : State ms) (ops : List (Op X Y)) (ha : Accepted s ops)
    (h : ∀ op ∈ ops, op.isReset = false) :
    (run s ops).since = s.since + ops.countP Op.isUpdate := by
  rw [since_without_reset_general s ops h, completedUpdates_of_accepted s ops ha]

/-- `since_reset` = number of updates after the last explicit reset -/
theorem since_after_reset (s : State ms) (pre post : List (Op X Y)) (ha : Accepted s (pre ++ .reset :: post))
    (h : ∀ op ∈ post, op.isReset = false) :
    (run s (pre ++ .reset :: post)).since = post.countP Op.isUpdate := by
  rw [List.append_cons] at ha ⊢
  rw [run_append, since_without_reset _ _ ((accepted_append s _ _).mp ha).2 h, (after_reset s pre).2.1]
  omega

theorem since_le_total (s : State ms) (ops : List (Op X Y)) (h : s.since ≤ s.total) :
    (run s ops).since ≤ (run s ops).total := by
  induction ops generalizing s with
  | nil => exact h
  | cons op ops ih =>
    refine ih (s.apply op) ?_
    rw [(apply_counters s op).1, (apply_counters s op).2]
    split <;> omega

/-- a freshly built ensemble: `total` = number of updates so far -/
theorem total_from_init (mem : States ms) (e : Elec) (ops : List (Op X Y)) (h : Accepted (init ms mem e) ops) :
    (run (init ms mem e) ops).total = ops.countP Op.isUpdate := by
  rw [total_counts_updates _ _ h]; simp [init]

section Example

/-- a member that sums the column it is given and alarms from 3 on; it rejects inputs above 9;
    `hasRecs` says whether it carries `retraining_recs` -/
def sumMember (name : String) (col : Nat × Nat → Nat) (hasRecs : Bool) : Member (Nat × Nat) Unit :=
  { name := name, σ := Nat, Xi := Nat, sel := col,
    step := fun s x _ => if x ≤ 9 then (s + x, true) else (s, false),
    setRef := fun _ x _ => (x, true), reset := fun _ => 0,
    drift := fun s => if s ≥ 3 then .drift else if s = 2 then .warning else .none,
    recs := fun s => if hasRecs then some (some s, Option.none) else Option.none }

def ms0 : List (Member (Nat × Nat) Unit) := [sumMember "b" Prod.fst true, sumMember "a" Prod.snd false]

def s0 (e : Elec) : State ms0 := init ms0 ((0 : Nat), (0 : Nat), ()) e

def ops0 : List (Op (Nat × Nat) Unit) := [.update (3, 0) (), .update (0, 2) (), .reset, .update (1, 3) ()]

def decAccepted : (s : State ms0) → (ops : List (Op (Nat × Nat) Unit)) → Decidable (Accepted s ops)
  | _, [] => isTrue trivial
  | s, op :: ops => @instDecidableAnd _ _ _ (decAccepted (s.apply op) ops)

instance (s : State ms0) (ops : List (Op (Nat × Nat) Unit)) : Decidable (Accepted s ops) := decAccepted s ops

-- the hypotheses of the theorems are satisfiable by a history with several calls of every kind
example : Accepted (s0 .majority) ops0 := by decide
-- the first member alarms at the first update, the second one only at the last; a ConfirmedElection(2, 5)
-- that started waiting at the first update is still waiting after the reset and confirms at the last
example : (run (s0 (.confirmed { sens := 2, wait := 5 })) (ops0.take 1)).drift = .none := by decide
example : (run (s0 (.confirmed { sens := 2, wait := 5 })) (ops0.take 2)).drift = .warning := by decide
example : (run (s0 (.confirmed { sens := 2, wait := 5 })) (ops0.take 3)).drift = .none := by decide
example : (run (s0 (.confirmed { sens := 2, wait := 5 })) ops0).drift = .drift := by decide
example : (run (s0 .majority) ops0).drift = .none := by decide
example : (run (s0 (.minApproval 1)) ops0).drift = .drift := by decide
example : driftStates ms0 (run (s0 .majority) ops0).mem = [("b", .none), ("a", .drift)] := by decide
example : retrainingRecs ms0 (run (s0 .majority) ops0).mem = [("b", (some 1, Option.none))] := by decide
example : ((run (s0 .majority) ops0).total, (run (s0 .majority) ops0).since) = (3, 1) := by decide
example : aloneVotes ms0 (s0 .majority).mem ops0 = [.none, .drift] := by decide
example : (ms0.map (·.name)).Nodup := by decide
-- a rejected update: the second member refuses 10; the first member has already been updated, the
-- ensemble's own counters and verdict do not move
example : (s0 .majority).completes (.update (1, 10) ()) = false := by decide
example : (delivered (s0 .majority) [.update (10, 1) (), .update (1, 1) ()] 1).length = 1 := by decide
example : (delivered (s0 .majority) [.update (1, 10) (), .update (1, 1) ()] 1).length = 2 := by decide
example : let r := run (s0 (.minApproval 1)) [.update (3, 10) ()]
    (r.total, r.since, r.drift, driftStates ms0 r.mem) = (0, 0, .none, [("b", .drift), ("a", .none)]) := by decide

end Example

end MV.Ensemble
