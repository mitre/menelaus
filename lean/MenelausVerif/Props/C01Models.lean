/-
  C01, part 2 — every trace of the Lean detector models satisfies the lifecycle contract
  (is accepted by the acceptor of `Model/Lifecycle.lean`), for all configurations and all
  histories.  One section per detector model: an invariant — `Mirror` plus what the detector needs
  to keep its warm-up and recommendation clauses —, `<d>_step_ok`: one update `Keeps` it, the row
  checked by `violated_none_of_step` (ADWIN: `violated_none_of_mirror`) against the detector's
  one-update lemmas, and `<d>_accepted`, which is `model_accepted` applied (MD3, whose rows are the
  accepted `update` calls of an arbitrary call history, has its own induction).

  The `Cfg` chosen for each model (`kind`, `a`, `b`, `restart`, `incAfterDrift`, `hasRecs`) is the
  one `harness/impl/zoo.py` (`Family.lifecycle`, `has_recs`; MD3: `harness/checks/c01.py`) hands to
  the same acceptor for the real detector.  Non-vacuity: `Props/C01Examples.lean` exhibits, per
  detector, a trace with a drift and the restart that follows it.
-/
import MenelausVerif.Props.C01
import MenelausVerif.Lemmas.ErrSteps
import MenelausVerif.Lemmas.SeqSteps
import MenelausVerif.Lemmas.LFRLoop
import MenelausVerif.Lemmas.NNDVIStep
import MenelausVerif.Lemmas.PCACDStep
import MenelausVerif.Lemmas.AdwinStruct
import MenelausVerif.Lemmas.MD3Step
namespace MV.Lifecycle
open MV

/-- A state that an update either keeps (after the reset that follows a drift) or sets to `drift` past the
    threshold `a` is non-`None` only past `a` (the two `burnin` detectors). -/
theorem past_of_keeps_or_alarms {d d' : Drift} {n n' a : Nat} (hn : n' = if d = .drift then 1 else n + 1)
    (hd : d' = (if d = .drift then .none else d) ∨ (d' = .drift ∧ a < n')) (h : d ≠ .none → a < n) :
    d' ≠ .none → a < n' := by
  intro hne
  rcases hd with hd | hd
  · by_cases hdd : d = .drift
    · rw [if_pos hdd] at hd; exact absurd hd hne
    · rw [if_neg hdd] at hd hn
      have := h (hd ▸ hne); omega
  · exact hd.2

section PH
variable {α : Type} [Add α] [Sub α] [Mul α] [Div α] [LT α] [DecidableLT α] [NatCast α]

def phCfg (c : PH.Cfg α) : Cfg :=
  { kind := .burnin, a := c.burnIn, b := 1, restart := 1, incAfterDrift := 1, hasRecs := false }

def phRow (s : PH.State α) (_ : α) : Obs :=
  { drift := s.drift, total := s.total, since := s.since, recs := (none, none), err := false, refDone := false }

def phInv (c : PH.Cfg α) (m : Mon) (s : PH.State α) : Prop :=
  Mirror m s.total s.since s.drift ∧ (s.drift ≠ .none → s.since > c.burnIn)

theorem ph_step_ok (c : PH.Cfg α) : Keeps (phCfg c) (fun s x => (PH.step c s x).1) phRow (phInv c) := by
  intro m s x h
  have hw := past_of_keeps_or_alarms (PH.step_since c s x) (PH.step_drift c s x) h.2
  exact ⟨violated_none_of_step h.1 rfl (PH.step_total c s x) (PH.step_since c s x) rfl
    (fun hd => decide_eq_true (hw hd)) nofun nofun, .advance .., hw⟩

/-- **PageHinkley satisfies the lifecycle contract on every history.** -/
theorem ph_accepted (c : PH.Cfg α) (xs : List α) :
    accept (phCfg c) {} 0 (rowsOf (fun s x => (PH.step c s x).1) phRow PH.init xs) = none :=
  model_accepted _ _ _ _ (ph_step_ok c) xs {} PH.init 0 ⟨⟨rfl, rfl, rfl⟩, fun h => absurd rfl h⟩

end PH

section DDM
variable {α : Type} [Add α] [Sub α] [Mul α] [Div α] [LE α] [DecidableLE α] [NatCast α] [HasSqrt α]

def ddmCfg (c : DDM.Cfg α) : Cfg :=
  { kind := .ddm, a := c.nThreshold, b := 1, restart := 1, incAfterDrift := 1, hasRecs := true }

def ddmRow (s : DDM.State α) (_ : Bool) : Obs :=
  { drift := s.drift, total := s.total, since := s.since, recs := s.recs, err := false, refDone := false }

/-- `DDM.Inv` (its warm-up guard is the contract's, and the recommendation rule rests on it); a
    recommendation start is an index already seen -/
def ddmInv (c : DDM.Cfg α) (m : Mon) (s : DDM.State α) : Prop :=
  Mirror m s.total s.since s.drift ∧ DDM.Inv c s ∧ (∀ a, s.recs.1 = some a → a < s.total)

theorem ddm_step_ok (c : DDM.Cfg α) : Keeps (ddmCfg c) (DDM.step c) ddmRow (ddmInv c) := by
  intro m s e ⟨hm, hI, hr⟩
  have ht := DDM.step_total c s e
  have hI' := (DDM.firstRule c).inv s e hI
  obtain ⟨hrec, hr'⟩ := recs_of_first (o := ddmRow (DDM.step c s e) e) ht ((DDM.firstRule c).recs s e hI) hr
  exact ⟨violated_none_of_step hm rfl ht ((DDM.step_since c s e).trans (restart_one ..)) rfl
    (fun hd => decide_eq_true (hI'.warm hd)) nofun (fun _ => hrec), .advance .., hI', hr'⟩

/-- **DDM satisfies the lifecycle contract on every history.** -/
theorem ddm_accepted (c : DDM.Cfg α) (xs : List Bool) :
    accept (ddmCfg c) {} 0 (rowsOf (DDM.step c) ddmRow DDM.init xs) = none :=
  model_accepted _ _ _ _ (ddm_step_ok c) xs {} DDM.init 0
    ⟨⟨rfl, rfl, rfl⟩, (DDM.firstRule c).inv0, nofun⟩

end DDM

section EDDM
variable {α : Type} [Add α] [Sub α] [Mul α] [Div α] [LT α] [DecidableLT α] [LE α] [DecidableLE α]
  [NatCast α] [HasSqrt α]

def eddmCfg (c : EDDM.Cfg α) : Cfg :=
  { kind := .eddm, a := c.nThreshold, b := 1, restart := 1, incAfterDrift := 1, hasRecs := true }

/-- the row carries the input-derived signal "this sample was a misclassification" -/
def eddmRow (s : EDDM.State α) (e : Bool) : Obs :=
  { drift := s.drift, total := s.total, since := s.since, recs := s.recs, err := e, refDone := false }

/-- as for DDM, and the acceptor's error count of the epoch is the model's `_n_errors` -/
def eddmInv (c : EDDM.Cfg α) (m : Mon) (s : EDDM.State α) : Prop :=
  Mirror m s.total s.since s.drift ∧ m.errs = s.nErrors ∧ EDDM.Inv c s ∧ (∀ a, s.recs.1 = some a → a < s.total)

theorem eddm_step_ok (c : EDDM.Cfg α) : Keeps (eddmCfg c) (EDDM.step c) eddmRow (eddmInv c) := by
  intro m s e ⟨hm, he, hI, hr⟩
  have ht := EDDM.step_total c s e
  have hI' := (EDDM.firstRule c).inv s e hI
  have herr : errsNow m (eddmRow (EDDM.step c s e) e) = (EDDM.step c s e).nErrors := by
    rw [EDDM.step_nErrors, errsNow, hm.drift, he]; rfl
  obtain ⟨hrec, hr'⟩ := recs_of_first (o := eddmRow (EDDM.step c s e) e) ht ((EDDM.firstRule c).recs s e hI) hr
  exact ⟨violated_none_of_step hm rfl ht ((EDDM.step_since c s e).trans (restart_one ..)) rfl
    (fun hd => decide_eq_true (herr ▸ hI'.warm hd)) nofun (fun _ => hrec), .advance .., herr, hI', hr'⟩

/-- **EDDM satisfies the lifecycle contract on every history.** -/
theorem eddm_accepted (c : EDDM.Cfg α) (xs : List Bool) :
    accept (eddmCfg c) {} 0 (rowsOf (EDDM.step c) eddmRow EDDM.init xs) = none :=
  model_accepted _ _ _ _ (eddm_step_ok c) xs {} EDDM.init 0
    ⟨⟨rfl, rfl, rfl⟩, rfl, (EDDM.firstRule c).inv0, nofun⟩

end EDDM

section STEPD
variable {α : Type} [Add α] [Sub α] [Mul α] [Div α] [Neg α] [LT α] [DecidableLT α] [NatCast α] [HasSqrt α]

def stepdCfg (c : STEPD.Cfg α) : Cfg :=
  { kind := .stepd, a := c.window, b := 1, restart := 1, incAfterDrift := 1, hasRecs := true }

def stepdRow (s : STEPD.State) (_ : Bool) : Obs :=
  { drift := s.drift, total := s.total, since := s.since, recs := s.recs, err := false, refDone := false }

/-- `STEPD.Inv` (a non-`None` state has two full windows; no recommendation while `None`), and
    otherwise the recommendation is a range of seen indices ending at the latest sample -/
def stepdInv (c : STEPD.Cfg α) (m : Mon) (s : STEPD.State) : Prop :=
  Mirror m s.total s.since s.drift ∧ STEPD.Inv c s ∧
  (s.drift ≠ .none → ∃ a, s.recs = (some a, some (s.total - 1)) ∧ a + 1 ≤ s.total)

theorem stepd_step_ok (c : STEPD.Cfg α) : Keeps (stepdCfg c) (STEPD.step c) stepdRow (stepdInv c) := by
  intro m s e ⟨hm, hI, hr⟩
  have ht := STEPD.step_total c s e
  have hs := STEPD.step_since c s e
  have hI' := (STEPD.runRule c).inv s e hI
  obtain ⟨hrec, hr'⟩ := recs_of_run (o := stepdRow (STEPD.step c s e) e) ht
    ((STEPD.runRule c).recs_none s e hI) ((STEPD.runRule c).recs_some s e hI) hI.2 hr
  exact ⟨violated_none_of_step hm rfl ht (hs.trans (restart_one ..)) rfl
    (fun hd => decide_eq_true (hI'.1 hd)) nofun (fun _ => hrec), .advance .., hI', hr'⟩

/-- **STEPD satisfies the lifecycle contract on every history.** -/
theorem stepd_accepted (c : STEPD.Cfg α) (xs : List Bool) :
    accept (stepdCfg c) {} 0 (rowsOf (STEPD.step c) stepdRow STEPD.init xs) = none :=
  model_accepted _ _ _ _ (stepd_step_ok c) xs {} STEPD.init 0
    ⟨⟨rfl, rfl, rfl⟩, (STEPD.runRule c).inv0, fun h => absurd rfl h⟩

end STEPD

section CUSUM
variable {α : Type} [Add α] [Sub α] [Mul α] [Div α] [LT α] [DecidableLT α] [NatCast α] [BEq α]
  [HasSqrt α]

def cusumCfg (c : Cusum.Cfg α) : Cfg :=
  { kind := .burnin, a := c.burnIn, b := 1, restart := 1, incAfterDrift := 1, hasRecs := false }

def cusumRow (s : Cusum.State α) (_ : α) : Obs :=
  { drift := s.drift, total := s.total, since := s.since, recs := (none, none), err := false, refDone := false }

def cusumInv (c : Cusum.Cfg α) (m : Mon) (s : Cusum.State α) : Prop :=
  Mirror m s.total s.since s.drift ∧ (s.drift ≠ .none → s.since > c.burnIn)

theorem cusum_step_ok (c : Cusum.Cfg α) :
    Keeps (cusumCfg c) (fun s x => (Cusum.step c s x).1) cusumRow (cusumInv c) := by
  intro m s x h
  obtain ⟨ht, hs, -⟩ := Cusum.step_counters c s x
  have hw := past_of_keeps_or_alarms hs (Cusum.step_drift c s x) h.2
  exact ⟨violated_none_of_step h.1 rfl ht hs rfl (fun hd => decide_eq_true (hw hd)) nofun nofun,
    .advance .., hw⟩

/-- **CUSUM satisfies the lifecycle contract on every history** — the rows are the states the detector
    is left in by *every* update, including one that raises (`total_samples` has then been
    incremented already, see `Model/Cusum.lean`); in particular on the histories in which no update
    raises (`Cusum.run c xs = some s`), which are the ones the contract quantifies over. -/
theorem cusum_accepted (c : Cusum.Cfg α) (xs : List α) :
    accept (cusumCfg c) {} 0 (rowsOf (fun s x => (Cusum.step c s x).1) cusumRow (Cusum.init c) xs) = none :=
  model_accepted _ _ _ _ (cusum_step_ok c) xs {} (Cusum.init c) 0 ⟨⟨rfl, rfl, rfl⟩, fun h => absurd rfl h⟩

end CUSUM

section ADWIN
variable {α : Type} [Add α] [Sub α] [Mul α] [Div α] [Neg α] [LT α] [DecidableLT α]
  [NatCast α] [HasSqrt α] [HasLogExp α]

def adwinCfg (c : Adwin.Cfg α) : Cfg :=
  { kind := .adwin, a := c.windowThresh, b := c.newSampleThresh, restart := 1, incAfterDrift := 1, hasRecs := true }

/-- `Model/Adwin.lean` leaves out `samples_since_reset` (ADWIN never reads it).  The contract observes
    it, so the model state is paired with it here, transcribed from `adwin.py:105-115`:
    `if self.drift_state is not None: self.reset()` (→ 0), then `super().update` (+ 1).
    (Suffix `L`, here and for the kdq detectors: a model state paired with what only the lifecycle
    contract or its harness looks at.) -/
structure AdwinL (α : Type) where
  st : Adwin.State α
  since : Nat

def adwinInitL : AdwinL α := ⟨Adwin.init, 0⟩

def adwinStepL (c : Adwin.Cfg α) (s : AdwinL α) (x : α) : AdwinL α :=
  ⟨Adwin.step c s.st x, (if s.st.drift ≠ .none then 0 else s.since) + 1⟩

def adwinObs (s : AdwinL α) : Obs :=
  { drift := s.st.drift, total := s.st.total, since := s.since, recs := s.st.recs, err := false, refDone := false }

def adwinRow (s : AdwinL α) (_ : α) : Obs := adwinObs s

/-- the acceptor's reconstructed width is the model's `_window_size` -/
def adwinInv (m : Mon) (s : AdwinL α) : Prop :=
  Mirror m s.st.total s.since s.st.drift ∧ m.width = s.st.W ∧ Adwin.SInv s.st

theorem adwin_step_ok (c : Adwin.Cfg α) (hsub : 1 ≤ c.subThresh) :
    Keeps (adwinCfg c) (adwinStepL c) adwinRow adwinInv := by
  intro m s x ⟨hm, h4, h5⟩
  obtain ⟨hinv, htot, hc⟩ := Adwin.step_cases c hsub s.st h5 x
  have hs : (adwinStepL c s x).since = if s.st.drift = .drift then 1 else s.since + 1 := by
    show (if s.st.drift ≠ .none then 0 else s.since) + 1 = _
    by_cases hd : s.st.drift = .drift
    · rw [hd]; rfl
    · rw [h5.drift_eq_none hd]; rfl
  have htot' : (Adwin.step c s.st x).total = s.st.total + if s.st.drift = .drift then 1 else 1 := by
    rw [htot, ite_self]
  -- the fields of the row are those of `Adwin.step c s.st x` by unfolding
  rcases hc with ⟨hd, hW, hr⟩ | ⟨hd, hW1, hW2, hWt, hr, hsch, hmin⟩
  · -- the sample is added
    have hnd : (adwinRow (adwinStepL c s x) x).drift ≠ .drift := fun h => nomatch hd.symm.trans h
    refine ⟨violated_none_of_mirror hm htot' hs (fun hne => absurd hd hne)
        (fun _ h => absurd h hnd) (fun _ _ _ => ?_) (fun _ h => absurd h hnd), .advance .., ?_, hinv⟩
    · exact (recsFresh_iff _).2 ⟨fun a h => absurd (congrArg Prod.fst hr ▸ h) nofun,
        fun a h => absurd (congrArg Prod.snd hr ▸ h) nofun⟩
    · exact (widthNow_of_not_drift m _ hnd).trans (by rw [h4]; exact hW.symm)
  · -- the window is cut
    obtain ⟨g1, g2, g3⟩ := adwin_cut_row m (adwinRow (adwinStepL c s x) x) hd hr hW1
      (by rw [h4]; exact Nat.le_succ_of_le hW2) hWt
    refine ⟨violated_none_of_mirror hm htot' hs (fun _ => ?_)
        (fun _ _ => g2) (fun _ _ hk => absurd ⟨rfl, hd⟩ hk) (fun _ _ => g3), .advance .., g1, hinv⟩
    rw [← htot] at hsch
    rw [← h4] at hmin
    show ((Adwin.step c s.st x).total % c.newSampleThresh == 0 && decide (m.width + 1 > c.windowThresh)) = true
    rw [hsch, decide_eq_true hmin]; rfl

/-- **ADWIN satisfies the lifecycle contract on every history** (`subwindow_size_thresh ≥ 1`, as in C03). -/
theorem adwin_accepted (c : Adwin.Cfg α) (hsub : 1 ≤ c.subThresh) (xs : List α) :
    accept (adwinCfg c) {} 0 (rowsOf (adwinStepL c) adwinRow adwinInitL xs) = none :=
  model_accepted _ _ _ _ (adwin_step_ok c hsub) xs {} adwinInitL 0 ⟨⟨rfl, rfl, rfl⟩, rfl, Adwin.sinv_init⟩

/-- the paired state's first component is the C03 model run -/
theorem adwinL_st (c : Adwin.Cfg α) (xs : List α) (s : AdwinL α) :
    (xs.foldl (adwinStepL c) s).st = xs.foldl (Adwin.step c) s.st :=
  (List.foldl_hom AdwinL.st (fun _ _ => rfl)).symm

/-- **ADWINAccuracy** is ADWIN on the agreement indicator (`AdwinAcc.step c s y` is by definition
    `Adwin.step c s (indicator y.1 y.2)`), so its traces are accepted under the same configuration -/
theorem adwinAcc_accepted {β : Type} [DecidableEq β] (c : Adwin.Cfg α) (hsub : 1 ≤ c.subThresh)
    (ys : List (β × β)) :
    accept (adwinCfg c) {} 0
      (rowsOf (fun s (y : β × β) => adwinStepL c s (AdwinAcc.indicator y.1 y.2))
        (fun s _ => adwinObs s) adwinInitL ys) = none :=
  model_accepted (adwinCfg c) (fun s (y : β × β) => adwinStepL c s (AdwinAcc.indicator y.1 y.2))
    (fun s _ => adwinObs s) adwinInv (fun m s y => adwin_step_ok c hsub m s (AdwinAcc.indicator y.1 y.2)) ys {}
    adwinInitL 0 ⟨⟨rfl, rfl, rfl⟩, rfl, Adwin.sinv_init⟩

end ADWIN

section LFR
variable {α : Type} [Add α] [Sub α] [Mul α] [Div α] [LT α] [DecidableLT α] [LE α] [DecidableLE α]
  [NatCast α] [BEq α] [LFR.HasRound α]

def lfrCfg (c : LFR.Cfg α) : Cfg :=
  { kind := .lfr, a := c.burnIn, b := c.subsample, restart := 1, incAfterDrift := 1, hasRecs := true }

def lfrRow (s : LFR.State α) (_ : LFR.Op) : Obs :=
  { drift := s.drift, total := s.total, since := s.since, recs := s.recs, err := false, refDone := false }

def lfrStep (c : LFR.Cfg α) (s : LFR.State α) (o : LFR.Op) : LFR.State α := LFR.step c s o.yt o.yp o.blocks

/-- the warm-up clause needs no invariant: an update off the schedule reports nothing, whatever the state
    before (`LFR.step_closed`) -/
def lfrInv (m : Mon) (s : LFR.State α) : Prop :=
  Mirror m s.total s.since s.drift ∧ (∀ a, s.recs.1 = some a → a < s.total)

theorem lfr_step_ok (c : LFR.Cfg α) : Keeps (lfrCfg c) (lfrStep c) lfrRow lfrInv := by
  intro m s o ⟨hm, hr⟩
  have ht := LFR.step_total c s o.yt o.yp o.blocks
  have hs := LFR.since_step c s o.yt o.yp o.blocks
  -- off the schedule (`since ≤ burn_in` or not a multiple of `subsample`) no rate is tested; the warm-up
  -- predicate of kind `lfr` is `LFR.gate` on the row's `since`, by unfolding
  have hw : (lfrStep c s o).drift ≠ .none → LFR.gate c (lfrStep c s o).since = true := by
    intro hne
    cases hg : LFR.gate c (lfrStep c s o).since
    · exact absurd (LFR.step_closed c s o.yt o.yp o.blocks hg).1 hne
    · rfl
  obtain ⟨hrec, hr'⟩ := recs_of_first (o := lfrRow (lfrStep c s o) o) ht
    ((LFR.step_recs c s o.yt o.yp o.blocks).trans (LFR.recsUpd_eq ..)) hr
  exact ⟨violated_none_of_step hm rfl ht (hs.trans (restart_one ..)) rfl hw nofun (fun _ => hrec),
    .advance .., hr'⟩

/-- **LinearFourRates satisfies the lifecycle contract on every history** (every sequence of labelled
    predictions and Monte-Carlo draws). -/
theorem lfr_accepted (c : LFR.Cfg α) (ops : List LFR.Op) :
    accept (lfrCfg c) {} 0 (rowsOf (lfrStep c) lfrRow LFR.init ops) = none :=
  model_accepted _ _ _ _ (lfr_step_ok c) ops {} LFR.init 0 ⟨⟨rfl, rfl, rfl⟩, nofun⟩

end LFR

section NNDVI
variable {α : Type}

def nndviCfg : Cfg :=
  { kind := .batch1, a := 0, b := 1, restart := 1, incAfterDrift := 1, hasRecs := false }

/-- one `update(X)`: the batch, the k-NN graph of the pooled points, the permutations drawn -/
abbrev NndviIn (α : Type) := List (NNSP.Row α) × List (List Bool) × List (List Nat)

def nndviRow (s : NNDVI.State α) (_ : NndviIn α) : Obs :=
  { drift := s.drift, total := s.total, since := s.since, recs := (none, none), err := false, refDone := false }

/-- the detector before its first update: fresh (`none`) or after `set_reference(X)` (`some X`) -/
def nndviInit (ref : Option (List (NNSP.Row α))) : NNDVI.State α :=
  { (NNDVI.init : NNDVI.State α) with reference := ref }

theorem nndviInit_some (X : List (NNSP.Row α)) : nndviInit (some X) = NNDVI.setReference NNDVI.init X := rfl

variable [LT α] [DecidableLT α] [Add α] [Sub α] [Mul α] [Div α] [Neg α] [NatCast α] [HasSqrt α]

def nndviStep (c : NNDVI.Cfg α) (s : NNDVI.State α) (i : NndviIn α) : NNDVI.State α :=
  (NNDVI.step c s i.1 i.2.1 i.2.2).1

theorem nndvi_step_ok (c : NNDVI.Cfg α) :
    Keeps nndviCfg (nndviStep c) nndviRow fun m s => Mirror m s.total s.since s.drift := by
  intro m s i h
  obtain ⟨ht, hs⟩ := NNDVI.step_counters c s i.1 i.2.1 i.2.2
  refine ⟨violated_none_of_step h rfl ht (hs.trans (restart_one ..)) rfl (fun _ => decide_eq_true ?_) nofun nofun,
    .advance ..⟩
  show (NNDVI.step c s i.1 i.2.1 i.2.2).1.since ≥ 1
  rw [hs]; exact Nat.le_add_left 1 _

/-- **NN-DVI satisfies the lifecycle contract on every history of updates**, whatever reference batch
    `set_reference` installed before (`ref = none`: every update is rejected, and still counted). -/
theorem nndvi_accepted (c : NNDVI.Cfg α) (ref : Option (List (NNSP.Row α))) (xs : List (NndviIn α)) :
    accept nndviCfg {} 0 (rowsOf (nndviStep c) nndviRow (nndviInit ref) xs) = none :=
  model_accepted _ _ _ _ (nndvi_step_ok c) xs {} (nndviInit ref) 0 ⟨rfl, rfl, rfl⟩

end NNDVI

section MD3
variable {α : Type}

def md3Cfg : Cfg :=
  { kind := .md3, a := 0, b := 1, restart := 1, incAfterDrift := 1, hasRecs := false }

def md3Row (s : MD3.State α) : Obs :=
  { drift := s.drift, total := s.total, since := s.since, recs := (none, none), err := false, refDone := false }

/-- an update was accepted since the acceptor's last row: the counters are one update ahead -/
def md3Ahead (m : Mon) (s : MD3.State α) : Prop :=
  s.total = m.total + 1 ∧ s.since = (if m.prevDrift = .drift then 1 else m.since + 1)

theorem md3_row_ok (m : Mon) (s : MD3.State α) (h : md3Ahead m s) :
    violated md3Cfg m (md3Row s) = none ∧ Mirror (advance m (md3Row s)) s.total s.since s.drift :=
  ⟨violated_none_of_step (m := m) ⟨rfl, rfl, rfl⟩ rfl h.1 h.2 rfl (fun _ => rfl) nofun nofun, .advance ..⟩

variable [Add α] [Sub α] [Mul α] [Div α] [Neg α] [LT α] [DecidableLT α] [NatCast α]

/-- The rows of a call history (any interleaving of `update` and `give_oracle_label` calls, refused
    ones included): one row per *accepted* `update`, read when the next accepted update arrives or the
    history ends — i.e. after the label calls that answer it, which are not updates (this is how
    `harness/checks/c01.py` observes MD3).  `pending` = an accepted update still awaits its row. -/
def md3Rows (c : MD3.Cfg α) : MD3.State α → Bool → List (MD3.Op α) → List Obs
  | s, pending, [] => if pending then [md3Row s] else []
  | s, pending, op :: ops =>
    if MD3.countsAsUpdate s op then
      (if pending then [md3Row s] else []) ++ md3Rows c (MD3.step c s op).1 true ops
    else md3Rows c (MD3.step c s op).1 pending ops

/-- `p` is the `pending` flag of `md3Rows`.  `false` occurs only before the first accepted update (from
    then on a row is always pending): the state is still the one the acceptor's memory mirrors, and a
    call that is not an accepted update leaves it alone. -/
def md3Inv (m : Mon) (s : MD3.State α) : (p : Bool) → Prop
  | false => Mirror m s.total s.since s.drift ∧ s.waiting = false
  | true => md3Ahead m s

theorem md3_update_ahead (c : MD3.Cfg α) (m : Mon) (s : MD3.State α) (op : MD3.Op α)
    (h : Mirror m s.total s.since s.drift) (hc : MD3.countsAsUpdate s op = true) :
    md3Ahead m (MD3.step c s op).1 := by
  obtain ⟨h1, h2, h3⟩ := h
  have ht := MD3.step_total c s op
  have hs := MD3.step_since c s op
  rw [hc] at ht hs
  simp only [if_true] at ht hs
  exact ⟨by rw [ht, h1], by rw [hs, h2, h3]; exact restart_one ..⟩

theorem md3_other_ahead (c : MD3.Cfg α) (m : Mon) (s : MD3.State α) (op : MD3.Op α)
    (h : md3Ahead m s) (hc : MD3.countsAsUpdate s op = false) : md3Ahead m (MD3.step c s op).1 := by
  have ht := MD3.step_total c s op
  have hs := MD3.step_since c s op
  rw [hc] at ht hs
  simp only [Bool.false_eq_true, if_false, Nat.add_zero] at ht hs
  unfold md3Ahead
  rw [ht, hs]; exact h

theorem md3_accepted_from (c : MD3.Cfg α) (ops : List (MD3.Op α)) :
    ∀ (m : Mon) (s : MD3.State α) (i : Nat) (p : Bool), md3Inv m s p →
      accept md3Cfg m i (md3Rows c s p ops) = none := by
  induction ops with
  | nil =>
    intro m s i p h
    cases p with
    | false => simp [md3Rows, accept]
    | true => simp [md3Rows, accept, (md3_row_ok m s h).1]
  | cons op ops ih =>
    intro m s i p h
    unfold md3Rows
    cases hc : MD3.countsAsUpdate s op with
    | true =>
      simp only [if_true]
      cases p with
      | false =>
        simp only [Bool.false_eq_true, if_false, List.nil_append]
        exact ih m _ i true (md3_update_ahead c m s op h.1 hc)
      | true =>
        obtain ⟨r1, r2⟩ := md3_row_ok m s h
        simp only [if_true, List.singleton_append, accept, r1]
        exact ih _ _ _ true (md3_update_ahead c _ s op r2 hc)
    | false =>
      simp only [Bool.false_eq_true, if_false]
      cases p with
      | false =>
        rw [MD3.step_idle c s op h.2 hc]
        exact ih m s i false h
      | true => exact ih m _ i true (md3_other_ahead c m s op h hc)

/-- **MD3 satisfies the lifecycle contract on every call history** (updates, labels and refused calls
    in any order), from the state after the constructor and the first `set_reference`. -/
theorem md3_accepted (c : MD3.Cfg α) (r : MD3.Ref α) (ops : List (MD3.Op α)) :
    accept md3Cfg {} 0 (md3Rows c (MD3.init c r) false ops) = none :=
  md3_accepted_from c ops {} (MD3.init c r) 0 false ⟨⟨rfl, rfl, rfl⟩, rfl⟩

end MD3

section PCACD
variable {X α : Type}

def pcacdCfg (c : PCACD.Cfg α) : Cfg :=
  { kind := .pcacd, a := c.w, b := c.step, restart := 0, incAfterDrift := 1, hasRecs := false }

def pcacdRow (s : PCACD.State X α) (_ : X × PCACD.Oracle α) : Obs :=
  { drift := s.drift, total := s.total, since := s.since, recs := (none, none), err := false, refDone := false }

/-- how far the fill phase has come: `since` counts the samples put into the windows (first epoch: the
    reference, then the test window; later epochs: the test window only — the reference is the former
    test window and the sample after the drift is discarded); `first` = no drift reported yet -/
def pcacdFill (c : PCACD.Cfg α) (first : Bool) (s : PCACD.State X α) : Prop :=
  s.since ≥ s.test.length ∧
  (first = true → (s.ref.length < c.w → s.test.length = 0 ∧ s.since ≥ s.ref.length) ∧
                  (c.w ≤ s.ref.length → s.since ≥ c.w + s.test.length))

/-- The part of the invariant that does not mention the acceptor.  Beside `PCACD.Inv` (window lengths, under
    `0 < window_size`) it counts `since`, which is what the warm-up clause reads, carries the flag `first`
    of the epoch, and needs no assumption on `window_size`. -/
structure PcacdReach (c : PCACD.Cfg α) (first : Bool) (s : PCACD.State X α) : Prop where
  notWarning : s.drift ≠ .warning
  drifted : s.drift ≠ .none → s.building = true ∧ first = false
  sliding : s.building = false → s.since ≥ (if first then 2 * c.w else c.w)
  filling : s.building = true → s.drift = .none → pcacdFill c first s

/-- the acceptor's `epoch = 0` (no drift reported so far) is the model's first epoch -/
def pcacdInv (c : PCACD.Cfg α) (m : Mon) (s : PCACD.State X α) : Prop :=
  Mirror m s.total s.since s.drift ∧ PcacdReach c (decide (m.epoch = 0)) s

section
variable [NatCast α]

/-- The fill count survives `fill`: after a drift (which ends the first epoch) it starts again from
    empty windows, otherwise the sample goes to the window `since` is counting into. -/
theorem pcacdFill_fill (c : PCACD.Cfg α) (first : Bool) (s : PCACD.State X α) (x : X)
    (hq : s.drift = .none → pcacdFill c first s) (hd : s.drift ≠ .none → first = false) :
    pcacdFill c first (PCACD.fill c s x) := by
  rw [PCACD.fill_eq]
  unfold pcacdFill at *
  dsimp only
  by_cases hn : s.drift = .none
  · obtain ⟨h1, h2⟩ := hq hn
    rw [if_neg (Decidable.not_not.2 hn), if_neg (Decidable.not_not.2 hn), if_neg (Decidable.not_not.2 hn)]
    by_cases hr : s.ref.length < c.w
    · rw [if_pos hr, if_pos hr, List.length_append, List.length_singleton]
      exact ⟨Nat.le_succ_of_le h1, fun hf => by have := h2 hf; omega⟩
    · rw [if_neg hr, if_neg hr]
      by_cases ht : s.test.length < c.w
      · rw [if_pos ht, List.length_append, List.length_singleton]
        exact ⟨Nat.succ_le_succ h1, fun hf => by have := h2 hf; omega⟩
      · rw [if_neg ht]
        exact ⟨Nat.le_succ_of_le h1, fun hf => by have := h2 hf; omega⟩
  · rw [if_pos hn, if_pos hn]
    exact ⟨Nat.zero_le _, fun hf => by rw [hd hn] at hf; cases hf⟩

end

section
variable [Add α] [Sub α] [Mul α] [Div α] [LT α] [DecidableLT α] [LE α] [DecidableLE α]
  [NatCast α] [PCACD.HasTrunc α]

def pcacdStep (c : PCACD.Cfg α) (s : PCACD.State X α) (xo : X × PCACD.Oracle α) : PCACD.State X α :=
  PCACD.step c s xo.1 xo.2

/-- **One update from a reachable state**: either a drift is reported — by the monitor, on the schedule,
    with both windows full — and the first epoch is over, or nothing is reported and the epoch goes on. -/
theorem PcacdReach.step {c : PCACD.Cfg α} {first : Bool} {s : PCACD.State X α} (h : PcacdReach c first s)
    (x : X) (o : PCACD.Oracle α) :
    ((PCACD.step c s x o).drift = .drift ∧ PcacdReach c false (PCACD.step c s x o) ∧
      s.total % c.step = 0 ∧ (PCACD.step c s x o).since ≥ (if first then 2 * c.w else c.w)) ∨
    ((PCACD.step c s x o).drift = .none ∧ PcacdReach c first (PCACD.step c s x o)) := by
  obtain ⟨-, h2, h3, h4⟩ := h
  cases hb : s.building
  · -- sliding: the state changes only where the monitor alarms on the schedule
    have hs : ∀ {n : Nat}, n = s.since + 1 → n ≥ (if first then 2 * c.w else c.w) :=
      fun e => e ▸ Nat.le_succ_of_le (h3 hb)
    rcases PCACD.step_sliding_cases c s x o hb with ⟨hsch, e1, e2, e3⟩ | ⟨e1, e2, e3, -⟩
    · refine .inl ⟨e1, ⟨?_, fun _ => ⟨e2, rfl⟩, fun h => ?_, fun _ h => ?_⟩,
        ((PCACD.scheduled_iff c s).1 hsch).1, hs e3⟩
      · rw [e1]; nofun
      · rw [e2] at h; cases h
      · rw [e1] at h; cases h
    · have hn : s.drift = .none := Decidable.byContradiction fun hd => by rw [(h2 hd).1] at hb; cases hb
      rw [hn] at e1
      refine .inr ⟨e1, ?_, fun h => absurd e1 h, fun _ => hs e3, fun h => ?_⟩
      · rw [e1]; nofun
      · rw [e2] at h; cases h
  · -- filling: the state is `None` afterwards; `build`, which ends the phase, leaves windows and counters alone
    have hF := pcacdFill_fill c first s x (h4 hb) fun hd => (h2 hd).2
    obtain ⟨-, b2, b3, -, -, -, -, b8, -⟩ := PCACD.build_frame c (PCACD.fill c s x) o
    have hd : (PCACD.fill c s x).drift = .none := by rw [PCACD.fill_eq]
    rw [PCACD.step_building c s x o hb, ← PCACD.fill_test_length c s x]
    split
    · rename_i hfull
      refine .inr ⟨b3.trans hd, by rw [b3, hd]; nofun, fun h => absurd (b3.trans hd) h, fun _ => ?_,
        fun h => by rw [b8] at h; cases h⟩
      -- the test window is full, and in the first epoch the reference window was counted before it
      unfold pcacdFill at hF
      rw [b2]
      cases first
      · exact hfull ▸ hF.1
      · have := hF.2 rfl; simp only [if_true]; omega
    · refine .inr ⟨hd, by rw [hd]; nofun, fun h => absurd hd h, fun h => ?_, fun _ _ => hF⟩
      rw [PCACD.fill_eq, hb] at h; cases h

theorem pcacd_step_ok (c : PCACD.Cfg α) : Keeps (pcacdCfg c) (pcacdStep (X := X) c) pcacdRow (pcacdInv c) := by
  intro m s xo ⟨hm, h4⟩
  obtain ⟨ht, hs0, -, -⟩ := PCACD.step_fields c s xo.1 xo.2
  -- a reachable state is rebuilding exactly after a drift
  have hs : (PCACD.step c s xo.1 xo.2).since = if s.drift = .drift then 0 else s.since + 1 := by
    rw [hs0]
    by_cases hd : s.drift = .drift
    · have hne : s.drift ≠ .none := by rw [hd]; nofun
      rw [if_pos hd, if_pos ⟨(h4.drifted hne).1, hne⟩]
    · rw [if_neg hd, if_neg fun h => h.2 (Drift.eq_none_of_ne h4.notWarning hd)]
  have hstep := h4.step xo.1 xo.2
  -- the row's warm-up clause, and the acceptor's `epoch = 0` after the row, by unfolding
  refine ⟨violated_none_of_step hm rfl ht hs rfl (fun hne => ?_) nofun nofun, .advance .., ?_⟩
  · obtain ⟨-, -, g2, g3⟩ := hstep.resolve_right fun h => hne h.1
    show (((PCACD.step c s xo.1 xo.2).total - 1) % c.step == 0 &&
      decide ((PCACD.step c s xo.1 xo.2).since ≥ if m.epoch = 0 then 2 * c.w else c.w)) = true
    rw [ht, Nat.add_sub_cancel, g2]
    by_cases he : m.epoch = 0 <;> simpa [he] using g3
  · show PcacdReach c (decide (m.epoch + (if (PCACD.step c s xo.1 xo.2).drift = .drift then 1 else 0) = 0)) _
    rcases hstep with ⟨hd, hreach, -⟩ | ⟨hd, hreach⟩
    · rw [hd, if_pos rfl]; exact hreach
    · rw [hd, if_neg nofun]; exact hreach

end

variable [Add α] [Sub α] [Mul α] [Div α] [LT α] [DecidableLT α] [LE α] [DecidableLE α]
  [NatCast α] [IntCast α] [PCACD.HasTrunc α]

set_option linter.unusedSectionVars false in
/-- **PCA-CD satisfies the lifecycle contract on every history** (every sequence of samples and oracle
    values; no assumption on `window_size` or the step). -/
theorem pcacd_accepted (c : PCACD.Cfg α) (xs : List (X × PCACD.Oracle α)) :
    accept (pcacdCfg c) {} 0 (rowsOf (pcacdStep c) pcacdRow PCACD.init xs) = none :=
  model_accepted _ _ _ _ (pcacd_step_ok c) xs {} PCACD.init 0
    ⟨⟨rfl, rfl, rfl⟩, by constructor <;> simp [PCACD.init, pcacdFill]⟩

end PCACD

end MV.Lifecycle
