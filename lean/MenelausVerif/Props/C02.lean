/-
  C02 — after a drift (or a new reference) a detector starts from a clean slate.

  Shape of every theorem of the property: for every state `s` in which a drift has just been reported
  (so for every history `xs` that ends in a drift) and every continuation `ys`, the running
  detector reports after `ys` exactly what a newly constructed detector (plus the documented
  carry-over) reports after `ys`, the total counter shifted by the number of items seen
  before.  Since `ys` is arbitrary this holds position by position and, the twin itself being
  an ordinary run, through the second, third, … drift.  No arithmetic law is used: both sides
  perform the same operations, so the statements hold for every carrier, including `Float`.

  Here is what does not depend on the detector: a relation kept by every update is kept by whole
  runs; `update` starts with `reset` when a drift is pending, and a relation kept by `reset` and by
  the rest of `update`, which `reset` establishes against a new detector, gives the whole family of
  twin statements (`Laws`); `OptRel` for updates that may raise.

  `Laws` fits a detector whose `update` returns nothing, cannot raise, carries nothing over a drift and
  is written literally as `core (if drift then reset s else s)`: an instance such as
  `DDM.twin := (laws c).twin h y ys` typechecks by unfolding the model's `step` / `run` to `Twin.step` /
  `Twin.run`, so a `step` of another shape (NNDVI's `let`s) does not fit.  PageHinkley's `update` also
  returns a row: `Laws` serves for its state, the row is said beside it.  Where `update` may raise (CUSUM,
  kdq, HDM) or something is carried over (CUSUM's constants, a reference batch), the detector's file
  shows that its `step` keeps its relation and lifts that with `run_related` or by an induction over its
  own `run`.
-/
import MenelausVerif.Base.Drift
namespace MV.Twin

theorem run_related {σ τ ι : Type} (step : σ → ι → σ) (step' : τ → ι → τ) (R : σ → τ → Prop)
    (hstep : ∀ s t i, R s t → R (step s i) (step' t i)) :
    ∀ (ys : List ι) (s : σ) (t : τ), R s t → R (ys.foldl step s) (ys.foldl step' t)
  | [], _, _, h => h
  | y :: ys, _, _, h => run_related step step' R hstep ys _ _ (hstep _ _ y h)

/-- The twin argument in one statement.  `R₀` relates a state in which a drift has just been reported
    to a newly constructed one; the first update turns `R₀` into `R`, every later one keeps `R`.
    (`Laws.twin` is this with `Laws.first_rel` as the first update.) -/
theorem run_related_after_first {σ τ ι : Type} (step : σ → ι → σ) (step' : τ → ι → τ)
    (R₀ R : σ → τ → Prop)
    (hfirst : ∀ s t i, R₀ s t → R (step s i) (step' t i))
    (hstep : ∀ s t i, R s t → R (step s i) (step' t i))
    (y : ι) (ys : List ι) (s : σ) (t : τ) (h : R₀ s t) :
    R ((y :: ys).foldl step s) ((y :: ys).foldl step' t) :=
  run_related step step' R hstep ys _ _ (hfirst s t y h)

/-- the prologue of `update`: `reset` first when a drift is pending.  (`↔`, not equality of the drift
    states: `Props/C17LFR` relates runs that agree only on whether a drift is pending.) -/
theorem pre_rel {σ τ : Type} {dσ : σ → Drift} {dτ : τ → Drift} {rσ : σ → σ} {rτ : τ → τ}
    {R : σ → τ → Prop} {s : σ} {t : τ} (h : R s t) (hd : dσ s = .drift ↔ dτ t = .drift)
    (hr : R (rσ s) (rτ t)) :
    R (if dσ s = .drift then rσ s else s) (if dτ t = .drift then rτ t else t) := by
  by_cases hs : dσ s = .drift
  · rw [if_pos hs, if_pos (hd.1 hs)]; exact hr
  · rw [if_neg hs, if_neg (hs ∘ hd.2)]; exact h

/-- what holds of every non-empty continuation holds at every non-empty prefix of a continuation
    (`k = 0` and `ys = []` are excluded by `h1`, `h2`) -/
theorem positions {ι : Type} {P : List ι → Prop} (h : ∀ y ys, P (y :: ys)) (ys : List ι) (k : Nat)
    (h1 : 1 ≤ k) (h2 : k ≤ ys.length) : P (ys.take k) :=
  match k, ys, h1, h2 with
  | _ + 1, y :: _, _, _ => h y _

section laws
variable {σ ι : Type} (drift : σ → Drift) (total : σ → Nat) (reset : σ → σ) (core : σ → ι → σ) (init : σ)

/-- the shape of `update` in PageHinkley, DDM, EDDM, STEPD (their `step` unfolds to this) -/
def step (s : σ) (i : ι) : σ := core (if drift s = .drift then reset s else s) i

def run (xs : List ι) : σ := xs.foldl (step drift reset core) init

/-- What makes such a detector start from a clean slate after a drift, for `R off s t` = "running
    state `s` is fresh state `t` up to the offset `off`": `R` determines the drift state, is kept by
    `reset` and by the body of `update`, and nothing but the count survives `reset`.  `run_total` is
    the one law about runs: an instance takes it from its model's counter lemma. -/
structure Laws (R : Nat → σ → σ → Prop) : Prop where
  drift_eq : ∀ {off s t}, R off s t → drift s = drift t
  reset_rel : ∀ {off s t}, R off s t → R off (reset s) (reset t)
  core_rel : ∀ {off s t} i, R off s t → R off (core s i) (core t i)
  reset_init : ∀ s, R (total s) (reset s) init
  init_drift : drift init ≠ .drift
  run_total : ∀ xs, total (run drift reset core init xs) = xs.length

variable {drift total reset core init} {R : Nat → σ → σ → Prop} (L : Laws drift total reset core init R)
include L

theorem Laws.pre {off : Nat} {s t : σ} (h : R off s t) :
    R off (if drift s = .drift then reset s else s) (if drift t = .drift then reset t else t) :=
  pre_rel h (L.drift_eq h ▸ Iff.rfl) (L.reset_rel h)

theorem Laws.step_rel {off : Nat} {s t : σ} (i : ι) (h : R off s t) :
    R off (step drift reset core s i) (step drift reset core t i) :=
  L.core_rel i (L.pre h)

theorem Laws.first_rel {s : σ} (i : ι) (h : drift s = .drift) :
    R (total s) (step drift reset core s i) (step drift reset core init i) := by
  unfold Twin.step
  rw [if_pos h, if_neg L.init_drift]
  exact L.core_rel i (L.reset_init s)

theorem Laws.twin {s : σ} (h : drift s = .drift) (y : ι) (ys : List ι) :
    R (total s) ((y :: ys).foldl (step drift reset core) s) (run drift reset core init (y :: ys)) :=
  run_related _ _ _ (fun _ _ i => L.step_rel i) ys _ _ (L.first_rel y h)

theorem Laws.history (xs : List ι) (h : drift (run drift reset core init xs) = .drift) (y : ι)
    (ys : List ι) :
    R xs.length (run drift reset core init (xs ++ y :: ys)) (run drift reset core init (y :: ys)) := by
  have := L.twin h y ys
  rw [L.run_total] at this
  simpa only [run, List.foldl_append] using this

theorem Laws.positions (xs : List ι) (h : drift (run drift reset core init xs) = .drift) (ys : List ι) (k : Nat)
    (h1 : 1 ≤ k) (h2 : k ≤ ys.length) :
    R xs.length (run drift reset core init (xs ++ ys.take k)) (run drift reset core init (ys.take k)) :=
  Twin.positions (P := fun l => R xs.length (run drift reset core init (xs ++ l)) (run drift reset core init l))
    (L.history xs h) ys k h1 h2

/-- second drift (re-apply for later ones): the twin is an ordinary run, so `history` applies to it
    again -/
theorem Laws.epochs (xs : List ι) (h : drift (run drift reset core init xs) = .drift) (y : ι)
    (ys : List ι) (h2 : drift (run drift reset core init (xs ++ y :: ys)) = .drift) (z : ι) (zs : List ι) :
    drift (run drift reset core init (y :: ys)) = .drift ∧
    R xs.length (run drift reset core init (xs ++ (y :: ys) ++ z :: zs))
      (run drift reset core init ((y :: ys) ++ z :: zs)) ∧
    R (xs.length + (y :: ys).length) (run drift reset core init (xs ++ (y :: ys) ++ z :: zs))
      (run drift reset core init (z :: zs)) ∧
    R (y :: ys).length (run drift reset core init ((y :: ys) ++ z :: zs))
      (run drift reset core init (z :: zs)) := by
  have hd : drift (run drift reset core init (y :: ys)) = .drift := L.drift_eq (L.history xs h y ys) ▸ h2
  refine ⟨hd, ?_, ?_, L.history (y :: ys) hd z zs⟩
  · rw [List.append_assoc]; exact L.history xs h y (ys ++ z :: zs)
  · rw [← List.length_append]; exact L.history (xs ++ y :: ys) h2 z zs

end laws

/-- two partial results agree: both updates raise, or both return and the results are related.
    (`Cusum.OptRel`, `C18.OptRel`, `HDM.RelOpt` are the same relation, each declared in the file of its
    first use; `Cusum.optRel_eq`, `HDM.RelOpt.cases` … carry these lemmas over.) -/
def OptRel {σ τ : Type} (R : σ → τ → Prop) : Option σ → Option τ → Prop
  | some a, some b => R a b
  | none, none => True
  | _, _ => False

namespace OptRel
variable {σ τ σ' τ' : Type} {R : σ → τ → Prop} {Q : σ' → τ' → Prop} {a : Option σ} {b : Option τ}

theorem cases (h : OptRel R a b) :
    (a = none ∧ b = none) ∨ ∃ x y, a = some x ∧ b = some y ∧ R x y :=
  match a, b, h with
  | some x, some y, h => .inr ⟨x, y, rfl, rfl, h⟩
  | none, none, _ => .inl ⟨rfl, rfl⟩

theorem isSome_eq (h : OptRel R a b) : a.isSome = b.isSome :=
  match a, b, h with
  | some _, some _, _ => rfl
  | none, none, _ => rfl

theorem bind {f : σ → Option σ'} {g : τ → Option τ'} (h : OptRel R a b)
    (hfg : ∀ x y, a = some x → b = some y → R x y → OptRel Q (f x) (g y)) :
    OptRel Q (a.bind f) (b.bind g) :=
  match a, b, h with
  | some x, some y, h => hfg x y rfl rfl h
  | none, none, _ => trivial

theorem map {f : σ → σ'} {g : τ → τ'} (h : OptRel R a b)
    (hfg : ∀ x y, a = some x → b = some y → R x y → Q (f x) (g y)) : OptRel Q (a.map f) (b.map g) :=
  match a, b, h with
  | some x, some y, h => hfg x y rfl rfl h
  | none, none, _ => trivial

theorem imp {R' : σ → τ → Prop} (h : OptRel R a b)
    (hR : ∀ x y, a = some x → b = some y → R x y → R' x y) : OptRel R' a b :=
  match a, b, h with
  | some x, some y, h => hR x y rfl rfl h
  | none, none, _ => trivial

theorem map_left {f : τ → σ} (hf : ∀ t, R (f t) t) : ∀ o : Option τ, OptRel R (o.map f) o
  | some t => hf t
  | none => trivial

end OptRel

/-- a history of updates that may raise: `none` from the first update that raises on
    (`KdqStream.run`, `KdqBatch.run` unfold to this, `f` the update with its report dropped) -/
def runO {σ ι : Type} (f : σ → ι → Option σ) (s : σ) (ys : List ι) : Option σ :=
  ys.foldl (fun s? i => s?.bind (f · i)) (some s)

theorem foldl_bind_none {σ ι : Type} (f : σ → ι → Option σ) :
    ∀ ys : List ι, ys.foldl (fun s? i => s?.bind (f · i)) none = none
  | [] => rfl
  | _ :: ys => foldl_bind_none f ys

theorem runO_cons {σ ι : Type} (f : σ → ι → Option σ) (s : σ) (i : ι) (ys : List ι) :
    runO f s (i :: ys) = (f s i).bind (runO f · ys) := by
  show ys.foldl _ (f s i) = _
  cases f s i with
  | none => exact foldl_bind_none f ys
  | some _ => rfl

theorem runO_append {σ ι : Type} (f : σ → ι → Option σ) (s : σ) (xs ys : List ι) :
    runO f s (xs ++ ys) = (runO f s xs).bind (runO f · ys) := by
  induction xs generalizing s with
  | nil => rfl
  | cons x xs ih =>
    rw [List.cons_append, runO_cons, runO_cons]
    cases f s x with
    | none => rfl
    | some s' => exact ih s'

end MV.Twin
