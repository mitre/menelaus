/-
  C11 — "after a drift the former test window becomes the reference window", with online scaling.

  With `online_scaling=True` PCACD keeps its test window standardised and un-standardises it
  (`StandardScaler.inverse_transform`) when a drift turns it into the next reference window
  (`Model/Scaler.lean`).  Over `ℝ` that round trip is the identity whatever window the scaler was
  fitted on — a constant column gets scale 1 (zero-variance rule), so no scale vanishes.  Hence the
  new reference is the former test window in raw units, which is what `reference_is_former_test`
  (`Props/C11.lean`) tracks by sample positions.
-/
import MenelausVerif.Model.Scaler
import MenelausVerif.Lemmas.Carrier
import Mathlib.Analysis.Real.Sqrt

namespace MV.Scaler
open MV

noncomputable local instance : HasSqrt ℝ := ⟨Real.sqrt⟩
noncomputable local instance : BEq ℝ := ⟨fun a b => decide (a = b)⟩

theorem sumL_eq_sum (l : List ℝ) : sumL l = l.sum := by
  unfold sumL
  rw [foldl_add_eq_sum, Nat.cast_zero, zero_add]

theorem colVar_nonneg (col : List ℝ) : 0 ≤ colVar col := by
  unfold colVar
  simp only [sumL_eq_sum]
  refine div_nonneg (List.sum_nonneg fun y hy => ?_) (Nat.cast_nonneg _)
  obtain ⟨x, _, rfl⟩ := List.mem_map.mp hy
  exact mul_self_nonneg _

theorem scaleOf_const : scaleOf (0 : ℝ) = 1 := by simp [scaleOf, BEq.beq]

theorem scaleOf_pos (v : ℝ) (hv : 0 ≤ v) : 0 < scaleOf v := by
  rcases hv.eq_or_lt with rfl | h
  · rw [scaleOf_const]; exact one_pos
  · simp [scaleOf, h.ne', BEq.beq, HasSqrt.sqrt, Real.sqrt_pos.mpr h]

theorem fit_scale_pos (cols : List (List ℝ)) : ∀ s ∈ (fit cols).scale, 0 < s := by
  intro s hs
  simp only [fit, List.mem_map] at hs
  obtain ⟨v, ⟨col, _, rfl⟩, rfl⟩ := hs
  exact scaleOf_pos _ (colVar_nonneg col)

theorem zip_round_trip {K : Type} [Field K] (row : List K) (ms : List (K × K)) (hs : ∀ p ∈ ms, p.2 ≠ 0)
    (hl : row.length ≤ ms.length) :
    List.zipWith (fun (y : K) (p : K × K) => y * p.2 + p.1)
      (List.zipWith (fun (x : K) (p : K × K) => (x - p.1) / p.2) row ms) ms = row := by
  induction row generalizing ms with
  | nil => simp
  | cons x xs ih =>
    cases ms with
    | nil => simp at hl
    | cons p ps =>
      have hp : p.2 ≠ 0 := hs p List.mem_cons_self
      simp only [List.zipWith_cons_cons, List.cons.injEq]
      exact ⟨by rw [div_mul_cancel₀ _ hp, sub_add_cancel],
        ih ps (fun q hq => hs q (List.mem_cons_of_mem _ hq)) (Nat.le_of_succ_le_succ hl)⟩

/-- **the un-standardised test window is the raw test window**: for a scaler fitted on any window
    (constant columns included) and any row of the fitted width,
    `inverse_transform (transform row) = row` -/
theorem inverse_transform_row (cols : List (List ℝ)) (row : List ℝ) (hw : row.length = cols.length) :
    inverseRow (fit cols) (transformRow (fit cols) row) = row := by
  unfold inverseRow transformRow
  apply zip_round_trip
  · intro p hp
    have := (List.of_mem_zip hp).2
    exact ne_of_gt (fit_scale_pos cols _ this)
  · simp [fit, hw]

theorem inverse_transform_window (cols : List (List ℝ)) (win : List (List ℝ)) (hw : ∀ r ∈ win, r.length = cols.length) :
    (win.map (transformRow (fit cols))).map (inverseRow (fit cols)) = win := by
  rw [List.map_map]
  exact (List.map_congr_left fun r hr => inverse_transform_row cols r (hw r hr)).trans (List.map_id' win)

/-- the shortcut `z * sqrt(var_) + mean_` is a different function: a feature that was constant (= 5) in
    the fitted window and reads 7 afterwards is standardised to 2 and "un-standardised" to 5 -/
theorem sqrtVar_shortcut_wrong :
    let f := fit [[(5 : ℝ), 5, 5]]
    transformRow f [7] = [2] ∧ inverseRow f [2] = [7] ∧ inverseRowSqrtVar f [2] = [5] := by
  have hm : colMean [(5 : ℝ), 5, 5] = 5 := by simp [colMean, sumL]; norm_num
  have hv : colVar [(5 : ℝ), 5, 5] = 0 := by simp [colVar, hm, sumL]
  simp only [fit, List.map_cons, List.map_nil, hm, hv, scaleOf_const]
  refine ⟨?_, ?_, ?_⟩ <;> simp [transformRow, inverseRow, inverseRowSqrtVar, HasSqrt.sqrt] <;> norm_num

/-- `fit` gives one scale per column, for a constant column too -/
example : (fit [[(1 : ℝ), 1], [0, 2]]).scale.length = 2 := by simp [fit]

end MV.Scaler
