/-
  C09 — kdq-tree detectors alarm exactly when the leaf divergence exceeds a bootstrap bound.

  Model: `Model/KdqDetect.lean` around the partitioner of `Model/KdqTree.lean`
  (transcription of menelaus/data_drift/kdq_tree.py).  The bootstrap index draws of
  `np.random.choice` are inputs of the model.  The theorems about the two detectors hold for every
  carrier (no arithmetic law is used), hence for the executed `Float` instance; `sample_size_batch`
  additionally uses C08's conservation theorem (complementarity of the routing tests), and that
  `sortAsc` sorts is said for linear orders.  What one update does is in `Lemmas/KdqStep.lean`.

  The draws are opaque: nothing is assumed about their number, their length (`2 * sample_size` in the
  code) or their range (`hist` drops indices beyond the last leaf); with no draws at all
  (`bootstrap_samples = 0`) `criticalKld` is `default`.  `window_size = 0` is not excluded either; there
  the hypothesis of `stream_phases` already fails for the fresh detector.  `stream_phases` speaks of one
  update: that its hypothesis holds along every run from `sInit` is not stated.
-/
import MenelausVerif.Lemmas.KdqStep
import MenelausVerif.Lemmas.Drift
import MenelausVerif.Props.C08
set_option linter.unusedSectionVars false
namespace MV.KdqDet
open MV MV.Kdq

section updates
variable {α : Type} [Inhabited α] [Add α] [Sub α] [Mul α] [Div α] [LT α] [DecidableLT α]
  [LE α] [DecidableLE α] [NatCast α] [BEq α] [HasLogExp α] [HasRint α] [HasTrunc α]

/-- an update in state `"drift"` is an update of the reset detector: a new epoch starts -/
theorem stream_restart (c : SCfg α) (s : SState α) (x : List α) (d : List (List Nat)) (h : s.drift = .drift) :
    sStep c s x d = sStep c (sReset s) x d ∧
    (sReset s).tree = none ∧ (sReset s).refData = [] ∧ (sReset s).testSize = 0 ∧ (sReset s).counter = 0 ∧
    (sReset s).drift = .none ∧ (sReset s).since = 0 ∧ (sReset s).total = s.total :=
  ⟨by rw [sStep_eq, sStep_eq, sPre_of_drift h, sPre_of_not_drift (show (sReset s).drift ≠ .drift from nofun)],
    rfl, rfl, rfl, rfl, rfl, rfl, rfl⟩

/-- reference phase, window not yet full: the sample is appended, nothing else happens -/
theorem stream_building (c : SCfg α) (s : SState α) (x : List α) (d : List (List Nat))
    (ht : (sPre s).tree = none) (hw : (sPre s).refData.length + 1 ≠ c.window) :
    sStep c s x d = some ({ sPre s with total := (sPre s).total + 1, since := (sPre s).since + 1,
                                        refData := (sPre s).refData ++ [x] }, .building) :=
  sEvaluate_building c (sTick (sPre s)) x d ht hw

/-- the `window_size`-th sample of an epoch completes the reference: the tree is built from exactly
    those samples, the critical value is the nearest-rank `(1 - alpha)` quantile of the bootstrap
    divergences for sample size `window_size`, everything else restarts; no alarm -/
theorem stream_built (c : SCfg α) (s : SState α) (x : List α) (d : List (List Nat)) (t : Kdq.Tree α)
    (ht : (sPre s).tree = none) (hw : (sPre s).refData.length + 1 = c.window)
    (hb : build c.part x.length ((sPre s).refData ++ [x]) = some t) :
    ∃ s', sStep c s x d = some (s', .built) ∧ s'.tree = some t ∧ s'.drift = .none ∧ s'.counter = 0 ∧
      s'.testSize = 0 ∧ s'.testDist = none ∧ s'.refData = [] ∧ s'.total = (sPre s).total + 1 ∧
      s'.critical = some (quantileNearest (d.map (bootKld (leafCountsD t 0).length c.window)) (((1 : Nat) : α) - c.alpha)) :=
  ⟨_, (sEvaluate_built c (sTick (sPre s)) x d ht hw).trans (congrArg _ hb), rfl, rfl, rfl, rfl, rfl, rfl, rfl, rfl⟩

/-- test phase, fewer than `window_size` test samples so far: the sample is filed into the tree
    (accumulating), no evaluation, no alarm -/
theorem stream_waiting (c : SCfg α) (s : SState α) (x : List α) (d : List (List Nat)) (t : Kdq.Tree α)
    (ht : (sPre s).tree = some t) (hw : (sPre s).testSize + 1 < c.window) :
    ∃ s', sStep c s x d = some (s', .waiting) ∧ s'.tree = some (fill testId false [x] t) ∧
      s'.testSize = (sPre s).testSize + 1 ∧ s'.drift = (sPre s).drift ∧ s'.counter = (sPre s).counter ∧
      s'.testDist = (sPre s).testDist ∧ s'.critical = (sPre s).critical :=
  ⟨_, sEvaluate_waiting c (sTick (sPre s)) x d t ht hw, rfl, rfl, rfl, rfl, rfl, rfl⟩

/-- test phase with at least `window_size` test samples: the divergence of the accumulated test
    counts is compared (strictly) with the critical value; an exceeding evaluation increments the
    counter and alarms iff the counter then exceeds `persistence * window_size`; a non-exceeding
    evaluation sets the counter back to 0 -/
theorem stream_eval (c : SCfg α) (s : SState α) (x : List α) (d : List (List Nat)) (t : Kdq.Tree α)
    (ht : (sPre s).tree = some t) (hw : c.window ≤ (sPre s).testSize + 1) :
    ∃ s', sStep c s x d =
        some (s', .eval (decide ((sPre s).critical.getD default < divergence (fill testId false [x] t)))) ∧
      s'.tree = some (fill testId false [x] t) ∧ s'.testSize = (sPre s).testSize + 1 ∧
      s'.testDist = some (divergence (fill testId false [x] t)) ∧ s'.critical = (sPre s).critical ∧
      ((sPre s).critical.getD default < divergence (fill testId false [x] t) →
        s'.counter = (sPre s).counter + 1 ∧
        s'.drift = (if c.persistence * (c.window : α) < (((sPre s).counter + 1 : Nat) : α) then .drift else (sPre s).drift) ∧
        (s'.drift = .drift ↔ c.persistence * (c.window : α) < (((sPre s).counter + 1 : Nat) : α))) ∧
      (¬ (sPre s).critical.getD default < divergence (fill testId false [x] t) →
        s'.counter = 0 ∧ s'.drift = (sPre s).drift) := by
  refine ⟨_, sEvaluate_eval c (sTick (sPre s)) x d t ht hw, rfl, rfl, rfl, rfl, fun hex => ?_, fun hex => ?_⟩
  · have hnd := sPre_not_drift s
    by_cases ha : c.persistence * (c.window : α) < (((sPre s).counter + 1 : Nat) : α) <;>
      simp [sTick, hex, alarms, ha, hnd]
  · simp [sTick, hex]

end updates

/-- length of the current uninterrupted run of exceeding evaluations: the trailing block of
    `eval true` events (anything else — a non-exceeding evaluation, a new reference — ends it) -/
def runLength (evs : List Ev) : Nat := (evs.reverse.takeWhile (· == .eval true)).length

theorem runLength_snoc (evs : List Ev) (e : Ev) :
    runLength (evs ++ [e]) = if e = .eval true then runLength evs + 1 else 0 := by
  unfold runLength
  by_cases h : e = .eval true
  · subst h; simp
  · simp [h]

section inv
variable {α : Type} [Mul α] [LT α] [DecidableLT α] [NatCast α]

/-- the streaming detector after the updates `evs`.  `pos` is there for the updates that do not
    evaluate: without a tree, or with a test window that is not full, the counter can only be 0. -/
structure SInv (c : SCfg α) (s : SState α) (evs : List Ev) : Prop where
  cnt : s.counter = runLength evs
  pos : 0 < s.counter → c.window ≤ s.testSize ∧ s.tree.isSome = true
  drift : s.drift = .drift ↔ (evs.getLast? = some (.eval true) ∧ alarms c s.counter = true)
  nowarn : s.drift ≠ .warning

theorem SInv.init (c : SCfg α) : SInv c (sInit : SState α) [] := by
  constructor <;> simp [sInit, runLength]

/-- an update that is not an exceeding evaluation ends the run: counter 0, no alarm -/
theorem SInv.snoc_quiet {c : SCfg α} {s' : SState α} (evs : List Ev) {ev : Ev} (hev : ev ≠ .eval true)
    (hc : s'.counter = 0) (hd : s'.drift = .none) : SInv c s' (evs ++ [ev]) := by
  constructor <;> simp [hc, hd, runLength_snoc, hev]

end inv

variable {α : Type} [Inhabited α] [Add α] [Sub α] [Mul α] [Div α] [LT α] [DecidableLT α]
  [LE α] [DecidableLE α] [NatCast α] [BEq α] [HasLogExp α] [HasRint α] [HasTrunc α]

theorem SStepped.inv {c : SCfg α} {p s' : SState α} {x : List α} {d : List (List Nat)} {ev : Ev}
    (h : SStepped c p x d s' ev) {evs : List Ev} (pd : p.drift = .none)
    (ppos : 0 < p.counter → c.window ≤ p.testSize ∧ p.tree.isSome = true)
    (pcnt : p.tree.isSome = true → p.counter = runLength evs) : SInv c s' (evs ++ [ev]) := by
  -- `pcnt` is guarded by the tree: after the reset of a pending drift the counter is 0 while `evs`
  -- still ends in its run of exceeding evaluations, so `SInv.cnt` does not hold of `p` itself
  cases h with
  | building ht hw =>
    -- no tree, hence the counter is 0
    refine .snoc_quiet evs nofun (Nat.eq_zero_of_not_pos fun hpos => ?_) pd
    have := (ppos hpos).2
    rw [ht] at this
    cases this
  | built ht hw hb => exact .snoc_quiet evs nofun rfl rfl
  | waiting ht hw =>
    -- fewer than `window` test samples, hence the counter is 0
    exact .snoc_quiet evs nofun
      (Nat.eq_zero_of_not_pos fun hpos =>
        Nat.not_succ_le_self _ (Nat.le_of_succ_le (Nat.le_trans hw (ppos hpos).1))) pd
  | @eval t ht hw =>
    generalize hdec : decide (p.critical.getD default < divergence (fill testId false [x] t)) = ex
    cases ex with
    | false => exact .snoc_quiet evs nofun rfl pd
    | true =>
      have hcnt : p.counter = runLength evs := pcnt (by rw [ht]; rfl)
      constructor
      · exact (congrArg (· + 1) hcnt).trans (by rw [runLength_snoc, if_pos rfl])
      · exact fun _ => ⟨hw, rfl⟩
      all_goals by_cases ha : alarms c (p.counter + 1) = true <;> simp [ha, pd]

theorem sInv_step (c : SCfg α) (s : SState α) (evs : List Ev) (h : SInv c s evs)
    (x : List α) (d : List (List Nat)) (s' : SState α) (ev : Ev) (hstep : sStep c s x d = some (s', ev)) :
    SInv c s' (evs ++ [ev]) := by
  have hc := sStep_cases hstep
  by_cases hd : s.drift = .drift
  · -- a pending drift: the update starts from the reset state, with no tree and counter 0
    rw [sPre_of_drift hd] at hc
    exact hc.inv rfl (fun h => absurd h (Nat.lt_irrefl 0)) nofun
  · rw [sPre_of_not_drift hd] at hc
    exact hc.inv (Drift.eq_none_of_ne h.nowarn hd) h.pos fun _ => h.cnt

theorem sInv_run (c : SCfg α) : ∀ (inputs : List (List α × List (List Nat))) (s : SState α) (evs0 : List Ev),
    SInv c s evs0 → ∀ s' evs, sRun c s inputs = some (s', evs) → SInv c s' (evs0 ++ evs) := by
  intro inputs
  induction inputs with
  | nil => intro s evs0 h s' evs hr; cases hr; simpa using h
  | cons xd rest ih =>
    intro s evs0 h s' evs hr
    obtain ⟨x, d⟩ := xd
    rw [sRun_cons] at hr
    obtain ⟨⟨s1, ev⟩, h1, hr⟩ := Option.bind_eq_some_iff.mp hr
    obtain ⟨⟨s2, evs2⟩, h2, hr⟩ := Option.map_eq_some_iff.mp hr
    cases hr
    simpa using ih s1 (evs0 ++ [ev]) (sInv_step c s evs0 h x d s1 ev h1) s2 evs2 h2

/-- **streaming rule, for every history from a fresh detector** (any samples, any bootstrap draws,
    any number of epochs): the persistence counter is the length of the current uninterrupted run
    of exceeding evaluations, and `drift_state` is `"drift"` exactly when the last update was an
    exceeding evaluation and that run is longer than `persistence * window_size`; never `"warning"`. -/
theorem stream_drift_iff (c : SCfg α) (inputs : List (List α × List (List Nat))) (s : SState α) (evs : List Ev)
    (h : sRun c sInit inputs = some (s, evs)) :
    s.counter = runLength evs ∧
    (s.drift = .drift ↔
      evs.getLast? = some (.eval true) ∧ c.persistence * (c.window : α) < ((runLength evs : Nat) : α)) ∧
    s.drift ≠ .warning := by
  have hi := sInv_run c inputs sInit [] (SInv.init c) s evs h
  simp only [List.nil_append] at hi
  refine ⟨hi.cnt, ?_, hi.nowarn⟩
  rw [hi.drift, hi.cnt]
  simp [alarms]

inductive Phase where
  | building | built | waiting | eval
  deriving DecidableEq, Repr

def Ev.phase : Ev → Phase
  | .building => .building | .built => .built | .waiting => .waiting | .eval _ => .eval

/-- what the `i`-th update of an epoch does: the first `w` samples build the tree, a further
    `w - 1` are only filed, from sample `2w` on every update evaluates the divergence -/
def phaseAt (w i : Nat) : Phase :=
  if i + 1 < w then .building else if i + 1 = w then .built else if i + 1 < 2 * w then .waiting else .eval

theorem epochPos_restart (c : SCfg α) (s : SState α) (h : s.drift = .drift) : epochPos c (sPre s) = 0 := by
  rw [sPre_of_drift h]; rfl

theorem phaseAt_building {w i : Nat} (h : i + 1 < w) : phaseAt w i = .building := if_pos h

theorem phaseAt_built {w i : Nat} (h : i + 1 = w) : phaseAt w i = .built := by
  rw [phaseAt, if_neg (by omega), if_pos h]

theorem phaseAt_waiting {w n : Nat} (h : n + 1 < w) : phaseAt w (w + n) = .waiting := by
  rw [phaseAt, if_neg (by omega), if_neg (by omega), if_pos (by omega)]

theorem phaseAt_eval {w n : Nat} (h : w ≤ n + 1) : phaseAt w (w + n) = .eval := by
  rw [phaseAt, if_neg (by omega), if_neg (by omega), if_neg (by omega)]

theorem SStepped.phases {c : SCfg α} {p s' : SState α} {x : List α} {d : List (List Nat)} {ev : Ev}
    (h : SStepped c p x d s' ev) (hinv : p.tree = none → p.refData.length < c.window) (hnd : p.drift ≠ .drift) :
    ev.phase = phaseAt c.window (epochPos c p) ∧ epochPos c s' = epochPos c p + 1 ∧
    (s'.tree = none → s'.refData.length < c.window) ∧ (ev.phase ≠ .eval → s'.drift ≠ .drift) := by
  cases h with
  | building ht hw =>
    have := hinv ht
    simp only [epochPos, ht, List.length_append, List.length_singleton]
    exact ⟨(phaseAt_building (by omega)).symm, trivial, fun _ => by omega, fun _ => hnd⟩
  | built ht hw hb =>
    simp only [epochPos, ht]
    exact ⟨(phaseAt_built hw).symm, hw.symm, nofun, fun _ => nofun⟩
  | waiting ht hw =>
    simp only [epochPos, ht]
    exact ⟨(phaseAt_waiting hw).symm, rfl, nofun, fun _ => hnd⟩
  | eval ht hw =>
    simp only [epochPos, ht]
    exact ⟨(phaseAt_eval hw).symm, rfl, nofun, fun h => (h rfl).elim⟩

/-- the phases of an epoch: the kind of every update is determined by its position in the epoch,
    the position advances by one, and an update that is not an evaluation never alarms -/
theorem stream_phases (c : SCfg α) (hw : 0 < c.window) (s : SState α) (x : List α) (d : List (List Nat))
    (hinv : (sPre s).tree = none → (sPre s).refData.length < c.window)
    (s' : SState α) (ev : Ev) (hstep : sStep c s x d = some (s', ev)) :
    ev.phase = phaseAt c.window (epochPos c (sPre s)) ∧
    epochPos c s' = epochPos c (sPre s) + 1 ∧
    (s'.tree = none → s'.refData.length < c.window) ∧
    (ev.phase ≠ .eval → s'.drift ≠ .drift) :=
  (sStep_cases hstep).phases hinv (sPre_not_drift s)

/-- **batch rule**: with a reference in place (and no pending drift) the batch is filed into the
    reference tree with `reset`, and drift is reported iff `KL(reference ‖ batch)` over the leaves of
    the reference tree strictly exceeds the critical value; the drifted batch is remembered as the
    next reference, otherwise nothing about the reference changes -/
theorem batch_drift_iff (c : BCfg α) (s : BState α) (m : Nat) (X : List (List α)) (d : List (List Nat))
    (t : Kdq.Tree α) (crit : α) (hs : s.drift = .none) (ht : s.tree = some t) (hc : s.critical = some crit) :
    ∃ s', bStep c s m X d = some (s', some (decide (crit < divergence (fill testId true X t)))) ∧
      (s'.drift = .drift ↔ crit < divergence (fill testId true X t)) ∧
      s'.testDist = some (divergence (fill testId true X t)) ∧
      s'.tree = some (fill testId true X t) ∧ s'.critical = some crit ∧
      s'.total = s.total + 1 ∧ s'.since = s.since + 1 ∧
      (s'.drift = .drift → s'.refData = some X) ∧ (s'.drift ≠ .drift → s'.refData = s.refData ∧ s'.drift = .none) := by
  have e := bStep_test c s m X d t (by rw [hs]; nofun) ht
  simp only [hc, Option.getD_some] at e
  refine ⟨_, e, ?_, rfl, rfl, hc, rfl, rfl, ?_, ?_⟩ <;>
    by_cases hex : crit < divergence (fill testId true X t) <;> simp [hex, hs]

/-- `set_reference` / the adoption of a reference: tree of the given batch, critical value = the
    nearest-rank `(1 - alpha)` quantile of the bootstrap divergences with sample size = the sum of
    the reference leaf counts; state and divergence cleared -/
theorem batch_set_reference (c : BCfg α) (s : BState α) (m : Nat) (R : List (List α)) (d : List (List Nat))
    (t : Kdq.Tree α) (hb : build c.part m R = some t) :
    ∃ s0, bSetRef c s m R d = some s0 ∧ s0.tree = some t ∧ s0.drift = .none ∧ s0.since = 0 ∧
      s0.testDist = none ∧ s0.total = s.total ∧ s0.refData = s.refData ∧
      s0.critical = some (quantileNearest (d.map (bootKld (leafCountsD t 0).length (leafCountsD t 0).sum))
        (((1 : Nat) : α) - c.alpha)) := by
  rw [bSetRef_eq, hb]; exact ⟨_, rfl, rfl, rfl, rfl, rfl, rfl, rfl, rfl⟩

/-- **the drifted batch becomes the reference**: the update that follows a drift first rebuilds the
    tree from the batch `R` that drifted (with the bootstrap draws of this call), then files the new
    batch into *that* tree and applies the batch rule to it -/
theorem batch_next_reference (c : BCfg α) (s : BState α) (m : Nat) (R X : List (List α)) (d : List (List Nat))
    (t : Kdq.Tree α) (hs : s.drift = .drift) (hr : s.refData = some R) (hb : build c.part m R = some t) :
    ∃ s0, bSetRef c s m R d = some s0 ∧ bStep c s m X d = bStep c s0 m X d ∧
      s0.tree = some t ∧ s0.drift = .none ∧ s0.since = 0 ∧
      ∃ s', bStep c s m X d = some (s', some (decide (s0.critical.getD default < divergence (fill testId true X t)))) ∧
        s'.tree = some (fill testId true X t) ∧ s'.since = 1 ∧
        (s'.drift = .drift ↔ s0.critical.getD default < divergence (fill testId true X t)) := by
  obtain ⟨s0, h0, h1, h2, h3, -⟩ := batch_set_reference c s m R d t hb
  have e : bStep c s m X d = bStep c s0 m X d := by rw [bStep_adopt c s m X d hs, hr, Option.getD_some, h0]; rfl
  refine ⟨s0, h0, e, h1, h2, h3, _, e.trans (bStep_test c s0 m X d t (by rw [h2]; nofun) h1), rfl, congrArg (· + 1) h3, ?_⟩
  by_cases hex : s0.critical.getD default < divergence (fill testId true X t) <;> simp [hex, h2]

/-- the first update of a fresh batch detector only installs its batch as the reference -/
theorem batch_first_update (c : BCfg α) (m : Nat) (X : List (List α)) (d : List (List Nat)) (t : Kdq.Tree α)
    (hb : build c.part m X = some t) :
    ∃ s', bStep c (bInit : BState α) m X d = some (s', none) ∧ s'.tree = some t ∧ s'.drift = .none ∧
      s'.total = 1 ∧ s'.since = 0 ∧ s'.testDist = none := by
  rw [bStep_install c bInit m X d nofun rfl, bSetRef_eq, hb]; exact ⟨_, rfl, rfl, rfl, rfl, rfl, rfl⟩

/-- the bootstrap sample size of the batch detector, `sum(ref_counts)`, is the size of the reference
    batch (conservation, C08) — for every carrier with complementary routing tests -/
theorem sample_size_batch (hc : Kdq.Compl α) (c : BCfg α) {m : Nat} (hm : 0 < m) (R : List (List α)) (t : Kdq.Tree α)
    (hb : build c.part m R = some t) : (leafCountsD t 0).sum = R.length :=
  build_leaf_sum hc c.part hm R t hb

section order
variable {K : Type} [LinearOrder K]

theorem sortAsc_perm (l : List K) : (sortAsc l).Perm l :=
  (insertionSort_spec (ins := insertAsc) (fun _ => rfl) (fun _ _ _ => rfl) l).1

theorem sortAsc_sorted (l : List K) : (sortAsc l).Pairwise (· ≤ ·) :=
  (insertionSort_spec (ins := insertAsc) (fun _ => rfl) (fun _ _ _ => rfl) l).2

end order

/-- the critical value unfolded: entry number `rint((B-1)·(1-alpha))` of the sorted list of the `B`
    bootstrap divergences (`default` when the index is out of range, in particular for `B = 0`);
    with `sortAsc_perm` and `sortAsc_sorted` that is the order statistic of that rank -/
theorem critical_is_order_statistic (k s : Nat) (draws : List (List Nat)) (alpha : α) :
    criticalKld k s draws alpha =
      (sortAsc (draws.map (bootKld k s : List Nat → α))).getD
        (HasRint.rint ((((draws.length - 1 : Nat) : α)) * (((1 : Nat) : α) - alpha))) default := by
  simp [criticalKld, quantileNearest]

end MV.KdqDet
