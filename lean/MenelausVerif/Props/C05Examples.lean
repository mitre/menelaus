/-
  C05, non-vacuity: concrete histories over `ℚ` (with `sqrt := id`) for DDM, EDDM and STEPD that exercise
  warning → drift → next epoch (`Props/C05.lean`), and an EDDM epoch with two tested error positions
  (`Props/C05Max.lean`).  `Props/C01Examples.lean` reuses the configurations `cd`, `ce`, `cs`.
-/
import MenelausVerif.Props.C05Max
import Mathlib.Algebra.Order.Field.Rat

namespace MV
open MV.ErrTrace

/-! ## Non-vacuity: concrete histories over ℚ (with `sqrt := id`, any function will do
    for the statements above) that exercise warning → drift → next epoch -/
namespace C05Examples
local instance : HasSqrt ℚ := ⟨fun x => x⟩

def cd : DDM.Cfg ℚ := ⟨2, 1/2, 2⟩
/-- DDM: warning from update 1 on, drift at update 4: `recs = [1, 4]`; cleared by update 5 -/
example : (DDM.run cd [true, false]).drift = .warning ∧
    (DDM.run cd [true, false, false, false, true]).drift = .drift ∧
    (DDM.run cd [true, false, false, false, true]).recs = (some 1, some 4) ∧
    (DDM.run cd [true, false, false, false, true, true]).recs = Recs.empty ∧
    (DDM.run cd [true, false, false, false, true, true]).since = 1 := by decide +kernel
/-- the rate theorem at ℚ: 2 errors in 5 samples -/
example : (DDM.run cd [true, false, false, false, true]).rate = 2 / 5 := by
  have h := DDM.ddm_rate cd [true, false, false, false, true] (by simp)
  rw [h]; decide +kernel
/-- the hypotheses of `ddm_min`'s second clause are satisfiable -/
example : cd.nThreshold ≤ (DDM.run cd [true, false, false]).since ∧
    (DDM.run cd [true, false, false]).mins = some (1 / 3, 5 / 36) := by decide +kernel
/-- the hypothesis of the tested rows is satisfiable (and the burn-in one, with `n_threshold = 2`) -/
example : cd.nThreshold ≤ (DDM.pre (DDM.run cd [true])).since + 1 ∧
    (DDM.pre (DDM.init (α := ℚ))).since + 1 < cd.nThreshold := by decide +kernel

def ce : EDDM.Cfg ℚ := ⟨2, 9/10, 1/2⟩
def xe : List Bool := [false, false, false, true, false, false, true, true, true, true, true]
/-- EDDM: warning at update 8, drift at update 10: `recs = [8, 10]`; the mean distance is
    (index of the latest error) / (number of errors) = 10 / 6; cleared by the next update -/
example : (EDDM.run ce (xe.take 9)).drift = .warning ∧ (EDDM.run ce xe).drift = .drift ∧
    (EDDM.run ce xe).recs = (some 8, some 10) ∧ (EDDM.run ce xe).distMean = 10 / 6 ∧
    (EDDM.run ce (xe ++ [false])).recs = Recs.empty := by decide +kernel
example : (EDDM.run ce xe).distMean = ((EDDM.run ce xe).idxCurr : ℚ) / ((EDDM.run ce xe).nErrors : ℚ) :=
  EDDM.eddm_mean ce xe (by decide +kernel)

def cs : STEPD.Cfg ℚ := ⟨2, 1/4, 3/2⟩
def xs : List Bool := [false, false, false, false, false, true, true, true, false, false, false, false, true, true]
/-- STEPD: warning at update 5, drift at update 6: `recs = [5, 6]`; in the next epoch a drift
    without a preceding warning at update 13: `recs = [13, 13]`; `_s`, `_r`, `_window` as stated -/
example : (STEPD.run cs (xs.take 6)).drift = .warning ∧ (STEPD.run cs (xs.take 6)).recs = (some 5, some 5) ∧
    (STEPD.run cs (xs.take 7)).drift = .drift ∧ (STEPD.run cs (xs.take 7)).recs = (some 5, some 6) ∧
    (STEPD.run cs (xs.take 8)).recs = Recs.empty ∧ (STEPD.run cs (xs.take 8)).since = 1 ∧
    (STEPD.run cs xs).drift = .drift ∧ (STEPD.run cs xs).recs = (some 13, some 13) ∧
    (STEPD.run cs (xs.take 6)).win = [true, false] ∧ (STEPD.run cs (xs.take 6)).rPast = 4 := by
  decide +kernel

end C05Examples

/-! ## Non-vacuity: two tested error positions in one epoch, maximum attained at the earlier -/
namespace C05MaxExamples
local instance : HasSqrt ℚ := ⟨fun x => x⟩

def ce : EDDM.Cfg ℚ := ⟨2, 9/10, 1/2⟩
def xe : List Bool := [false, false, false, true, true, true]

/-- errors at 3, 4, 5 (one epoch, starting at 0); positions 4 and 5 are tested (`n_threshold = 2`),
    position 3 is not; the numerators are `4` and `25/9`; the stored maximum is the earlier one,
    and the statistic at position 5 is `25/36 ≤ 1` (a warning) -/
example : EDDM.epochStart ce xe = 0 ∧
    ¬ EDDM.TestedAt ce xe (EDDM.epochStart ce xe) 3 ∧
    EDDM.TestedAt ce xe (EDDM.epochStart ce xe) 4 ∧
    EDDM.TestedAt ce xe (EDDM.epochStart ce xe) 5 ∧
    EDDM.numAt ce xe 4 = 4 ∧ EDDM.numAt ce xe 5 = 25 / 9 ∧
    (EDDM.run ce xe).maxNum = EDDM.numAt ce xe 4 ∧
    EDDM.numAt ce xe 5 < (EDDM.run ce xe).maxNum ∧
    EDDM.numAt ce xe 5 / (EDDM.run ce xe).maxNum = 25 / 36 ∧
    (EDDM.run ce xe).drift = .warning := by
  unfold EDDM.TestedAt
  decide +kernel

/-- the theorem instantiated at this history -/
example : EDDM.numAt ce xe 5 ≤ (EDDM.run ce xe).maxNum :=
  (EDDM.eddm_max ce xe).bound 5 (by unfold EDDM.TestedAt; decide +kernel)

/-- the hypothesis of `eddm_ratio_le_one` is satisfiable -/
example : ce.nThreshold ≤ (EDDM.pre (EDDM.run ce (xe.take 4))).nErrors + 1 ∧
    0 < (EDDM.step ce (EDDM.run ce (xe.take 4)) true).maxNum := by decide +kernel

end C05MaxExamples

end MV
