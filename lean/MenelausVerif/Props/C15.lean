/-
  C15 — no mutation, no live references.  Theorems about the ownership discipline of
  `Model/Store.lean`.

  Partial by nature: these theorems say that the discipline (copy on validation, detector
  operations confined to detector-owned locations, injectors working on a fresh copy) implies
  the property; that menelaus follows the discipline is established only by the differential
  runs of harness/checks/c15.py (Python object identity is outside any Lean model).
  `aliasing_breaks_noninterference` shows the hypothesis is needed: a detector that keeps
  the caller's location (as `_validate_X` did before commit 7677206 of /repo) is not covered.
-/
import MenelausVerif.Model.Store
namespace MV.Store
variable {α : Type}

/-- the two stores look the same to the detector.  Ownership and the allocation pointer are compared as
    a whole, caller locations included: the two runs allocate in step, so a `poke k` addresses the same
    object on both sides and a fresh location is fresh on both. -/
def DetEq (s t : Store α) : Prop :=
  s.next = t.next ∧ s.owner = t.owner ∧ ∀ l, s.owner l = .detector → s.mem l = t.mem l

theorem DetEq.refl (s : Store α) : DetEq s s := ⟨rfl, rfl, fun _ _ => rfl⟩

theorem DetEq.trans {s t u : Store α} (h1 : DetEq s t) (h2 : DetEq t u) : DetEq s u := by
  refine ⟨h1.1.trans h2.1, h1.2.1.trans h2.2.1, ?_⟩
  intro l hl
  rw [h1.2.2 l hl]
  exact h2.2.2 l (by rw [← h1.2.1]; exact hl)

/-- the discipline of a detector operation -/
structure Disciplined (f : Store α → Store α) : Prop where
  /-- it reads only detector-owned locations (all that `noninterference` uses) -/
  reads_own : ∀ s t, DetEq s t → DetEq (f s) (f t)
  /-- it writes only detector-owned or fresh locations (for `inputs_unchanged`) -/
  writes_own : ∀ s l, s.owner l = .caller → (f s).owner l = .caller ∧ (f s).mem l = s.mem l
  /-- it leaves everything at or beyond the allocation pointer free (for `inputs_unchanged`) -/
  keeps_wf : ∀ s, WF s → WF (f s)

/-- an observation of the detector depends on detector-owned memory only -/
def DetObs {γ : Type} (o : Store α → γ) : Prop := ∀ s t, DetEq s t → o s = o t

theorem detEq_poke (s : Store α) (k : Nat) (w : List α) : DetEq (pokeAt s k w) s := by
  unfold pokeAt
  split
  · rename_i hk
    refine ⟨rfl, rfl, ?_⟩
    intro l hl
    by_cases h : l = k
    · subst h; simp at hl; rw [hk] at hl; cases hl
    · simp [h]
  · exact DetEq.refl s

theorem step_call (s : Store α) (tag : Tag) (v : List α) :
    step s (.call tag v) = alloc (alloc s .caller ⟨tag, v⟩) .detector ⟨tag, v⟩ := by
  show alloc _ .detector ((alloc s .caller ⟨tag, v⟩).mem s.next) = _
  rw [show (alloc s .caller ⟨tag, v⟩).mem s.next = ⟨tag, v⟩ from if_pos rfl]

theorem detEq_alloc {s t : Store α} (h : DetEq s t) (who : Owner) (o : Obj α) :
    DetEq (alloc s who o) (alloc t who o) := by
  obtain ⟨hn, hw, hm⟩ := h
  refine ⟨congrArg (· + 1) hn, by funext l; simp only [alloc, hn, hw], fun l hl => ?_⟩
  simp only [alloc, ← hn] at hl ⊢
  by_cases h : l = s.next
  · simp only [h, if_true]
  · simp only [h, if_false] at hl ⊢; exact hm l hl

theorem detEq_call (s t : Store α) (tag : Tag) (v : List α) (h : DetEq s t) :
    DetEq (step s (.call tag v)) (step t (.call tag v)) := by
  rw [step_call, step_call]
  exact detEq_alloc (detEq_alloc h _ _) _ _

/-- **noninterference**: for any interleaving of calls, detector operations and caller writes, every
    observation of the detector equals the corresponding observation of the run without the writes —
    provided every detector operation is disciplined. -/
theorem noninterference {γ : Type} (o : Store α → γ) (ho : DetObs o) (ops : List (Op α))
    (hd : ∀ f, Op.det f ∈ ops → Disciplined f) (s t : Store α) (h : DetEq s t) :
    trace o s ops = trace o t (erase ops) := by
  induction ops generalizing s t with
  | nil => rfl
  | cons op ops ih =>
    have hd' : ∀ f, Op.det f ∈ ops → Disciplined f := fun f hf => hd f (List.mem_cons_of_mem _ hf)
    cases op with
    | poke k w => exact ih hd' _ _ ((detEq_poke s k w).trans h)
    | call tag v =>
      have h' := detEq_call s t tag v h
      show o _ :: trace o _ ops = o _ :: trace o _ (erase ops)
      rw [ho _ _ h', ih hd' _ _ h']
    | det f =>
      have h' : DetEq (step s (.det f)) (step t (.det f)) := (hd f (List.mem_cons_self ..)).reads_own s t h
      show o _ :: trace o _ ops = o _ :: trace o _ (erase ops)
      rw [ho _ _ h', ih hd' _ _ h']

/-- the statement of the property: same start, with and without the caller's overwrites -/
theorem noninterference_run {γ : Type} (o : Store α → γ) (ho : DetObs o) (ops : List (Op α))
    (hd : ∀ f, Op.det f ∈ ops → Disciplined f) (s : Store α) :
    trace o s ops = trace o s (erase ops) :=
  noninterference o ho ops hd s s (DetEq.refl s)

theorem alloc_of_lt (s : Store α) (who : Owner) (o : Obj α) {l : Nat} (hl : l < s.next) :
    (alloc s who o).owner l = s.owner l ∧ (alloc s who o).mem l = s.mem l := by
  simp [alloc, Nat.ne_of_lt hl]

theorem wf_alloc (s : Store α) (who : Owner) (ob : Obj α) (h : WF s) : WF (alloc s who ob) := by
  intro l hl
  have hl' : s.next < l := hl
  simp only [alloc, if_neg (Nat.ne_of_gt hl')]
  exact h l (Nat.le_of_lt hl')

theorem lt_next_of_owner {s : Store α} (hw : WF s) {l : Nat} (hl : s.owner l ≠ .free) : l < s.next :=
  Nat.lt_of_not_le fun h => hl (hw l h)

theorem wf_step (s : Store α) (op : Op α) (h : WF s) (hd : ∀ f, op = .det f → Disciplined f) :
    WF (step s op) := by
  cases op with
  | call tag v => rw [step_call]; exact wf_alloc _ _ _ (wf_alloc _ _ _ h)
  | poke k w =>
    simp only [step, pokeAt]
    split <;> exact h
  | det f => exact (hd f rfl).keeps_wf s h

/-- **inputs_unchanged**, one operation: no `update` / `set_reference` call and no detector operation
    changes (or re-owns) any object the caller owns -/
theorem inputs_unchanged_step (s : Store α) (op : Op α) (hw : WF s) (hp : op.isPoke = false)
    (hd : ∀ f, op = .det f → Disciplined f) (l : Nat) (hl : s.owner l = .caller) :
    (step s op).owner l = .caller ∧ (step s op).mem l = s.mem l := by
  cases op with
  | poke k w => simp [Op.isPoke] at hp
  | det f => exact (hd f rfl).writes_own s l hl
  | call tag v =>
    have hlt : l < s.next := lt_next_of_owner hw (by simp [hl])
    have h1 := alloc_of_lt s .caller ⟨tag, v⟩ hlt
    have h2 := alloc_of_lt (alloc s .caller ⟨tag, v⟩) .detector ⟨tag, v⟩ (Nat.lt_succ_of_lt hlt)
    rw [step_call, h2.1, h2.2, h1.1, h1.2]
    exact ⟨hl, rfl⟩

/-- **inputs_unchanged**, whole histories: after any history without caller writes, every object the
    caller owned at the start is still the caller's and still has its content -/
theorem inputs_unchanged (ops : List (Op α)) (s : Store α) (hw : WF s)
    (hp : ∀ op ∈ ops, op.isPoke = false) (hd : ∀ f, Op.det f ∈ ops → Disciplined f)
    (l : Nat) (hl : s.owner l = .caller) :
    (run s ops).owner l = .caller ∧ (run s ops).mem l = s.mem l := by
  induction ops generalizing s with
  | nil => exact ⟨hl, rfl⟩
  | cons op ops ih =>
    have hdop : ∀ f, op = .det f → Disciplined f := fun f hf => hd f (by rw [hf]; exact List.mem_cons_self ..)
    have st := inputs_unchanged_step s op hw (hp op (List.mem_cons_self ..)) hdop l hl
    have := ih (step s op) (wf_step s op hw hdop)
      (fun o ho => hp o (List.mem_cons_of_mem _ ho)) (fun f hf => hd f (List.mem_cons_of_mem _ hf)) st.1
    exact ⟨this.1, this.2.trans st.2⟩

/-- right after a call the store holds the passed object, caller-owned, at the old allocation pointer and
    the detector's copy of it next to it (`step_call`, location by location) -/
theorem passed_object_unchanged (s : Store α) (tag : Tag) (v : List α) :
    (step s (.call tag v)).mem s.next = ⟨tag, v⟩ ∧ (step s (.call tag v)).owner s.next = .caller ∧
    (step s (.call tag v)).mem (s.next + 1) = ⟨tag, v⟩ ∧ (step s (.call tag v)).owner (s.next + 1) = .detector := by
  simp [step_call, alloc]

/-- an injector leaves every existing object (in particular its input) bit-for-bit unchanged, returns a
    fresh object — a location that did not exist before — of the container type of its input -/
theorem inject_fresh_unchanged (s : Store α) (hw : WF s) (src : Nat) (g : List α → List α) :
    (∀ l, l < s.next → (inject s src g).mem l = s.mem l ∧ (inject s src g).owner l = s.owner l) ∧
    s.owner s.next = .free ∧ (inject s src g).owner s.next = .caller ∧
    ((inject s src g).mem s.next).tag = (s.mem src).tag ∧
    ((inject s src g).mem s.next).data = g (s.mem src).data :=
  ⟨fun _ hl => (alloc_of_lt s _ _ hl).symm, hw _ (Nat.le_refl _), by simp [inject, alloc],
    by simp [inject, alloc], by simp [inject, alloc]⟩

/-- a disciplined detector operation: append the newest detector-owned object to the one before it
    (a window that grows in place).  A call allocates the caller's object and then the detector's copy,
    so after two calls the detector's two newest objects are at `next - 1` and `next - 3`. -/
def growWindow (s : Store Nat) : Store Nat :=
  if s.next < 4 then s else
    { s with mem := fun l => if l = s.next - 3 ∧ s.owner l = .detector ∧ s.owner (s.next - 1) = .detector
                            then { s.mem l with data := (s.mem l).data ++ (s.mem (s.next - 1)).data } else s.mem l }

theorem growWindow_disciplined : Disciplined growWindow := by
  refine ⟨?_, ?_, ?_⟩
  · intro s t ⟨hn, ho, hm⟩
    unfold growWindow
    rw [← hn]
    split
    · exact ⟨hn, ho, hm⟩
    · refine ⟨rfl, ho, ?_⟩
      intro l hl
      simp only at hl ⊢
      rw [← ho]
      split
      · rename_i hc
        rw [hm l hc.2.1, hm _ hc.2.2]
      · exact hm l hl
  · intro s l hl
    unfold growWindow
    split
    · exact ⟨hl, rfl⟩
    · refine ⟨hl, ?_⟩
      simp only
      split
      · rename_i hc; rw [hl] at hc; simp at hc
      · rfl
  · intro s hw
    unfold growWindow
    split <;> exact hw

/-- an observation that depends on the content of everything the detector owns among the first `n`
    locations: total length plus total of the entries -/
def detSize (n : Nat) (s : Store Nat) : Nat :=
  ((List.range n).map (fun l => if s.owner l = .detector then (s.mem l).data.length + (s.mem l).data.sum else 0)).sum

theorem detSize_obs (n : Nat) : DetObs (detSize n) := by
  intro s t ⟨_, ho, hm⟩
  unfold detSize
  congr 1
  apply List.map_congr_left
  intro l _
  rw [← ho]
  split
  · rename_i h; rw [hm l h]
  · rfl

-- two batches, the caller scribbles over both after passing them, the detector merges its copies
example :
    trace (detSize 8) (Store.empty ⟨.ndarray, []⟩)
      [.call .ndarray [1, 2, 3], .poke 0 [9, 9, 9], .call .dataframe [4, 5], .det growWindow, .poke 2 [7, 7]]
    = [9, 20, 31] ∧
    trace (detSize 8) (Store.empty ⟨.ndarray, []⟩)
      (erase [.call .ndarray [1, 2, 3], .poke 0 [9, 9, 9], .call .dataframe [4, 5], .det growWindow, .poke 2 [7, 7]])
    = [9, 20, 31] := by
  refine ⟨by decide, by decide⟩

/-- a detector that "validates" by keeping the caller's location (no copy): an operation that reads the
    caller-owned location 0 -/
def readsCallerLoc (s : Store Nat) : Store Nat :=
  alloc s .detector (s.mem 0)

/-- noninterference fails for it (so, by `noninterference_run`, it is not `Disciplined`): the caller's
    overwrite of location 0 shows up in the detector's next observation (this is F10, `_validate_X`
    returning `X.values`) -/
theorem aliasing_breaks_noninterference :
    trace (detSize 8) (Store.empty ⟨.ndarray, []⟩) [.call .ndarray [1, 2, 3], .poke 0 [9, 9, 9], .det readsCallerLoc]
    ≠ trace (detSize 8) (Store.empty ⟨.ndarray, []⟩)
        (erase [.call .ndarray [1, 2, 3], .poke 0 [9, 9, 9], .det readsCallerLoc]) := by
  decide

-- an injector call on the caller's first object: input unchanged, fresh caller-owned result, same container
example :
    let s := run (Store.empty ⟨.ndarray, []⟩) [.call .dataframe [1, 2, 3]]
    let s' := inject s 0 (fun d => d.map (· + 10))
    s'.mem 0 = ⟨.dataframe, [1, 2, 3]⟩ ∧ s'.mem 2 = ⟨.dataframe, [11, 12, 13]⟩ ∧ s.owner 2 = .free ∧ s'.owner 2 = .caller := by
  decide

end MV.Store
