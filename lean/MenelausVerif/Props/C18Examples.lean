/-
  C18 — NNDVI on the demo data of Props/C10.lean (carrier `ℚ`): reference and batch with their rows reordered give
  the same output of `update`, and the two reference states are related by `Rel`.
-/
import MenelausVerif.Props.C18
import MenelausVerif.Props.C10
namespace MV.NNDVI.C18
open MV MV.C18 MV.NNSP MV.NNSP.C18

deriving instance DecidableEq for Out

section Demo18
local instance : HasSqrt ℚ := ⟨fun x => x⟩

/-- reference {0,1} against batch {2,3}, rows of both reordered: the same output (drift) -/
example : (step demoCfg (setReference init [[1], [0]]) [[3], [2]] demoAdj [[0, 1, 2, 3], [0, 2, 1, 3]]).2 =
    (step demoCfg demoState [[2], [3]] demoAdj [[0, 1, 2, 3], [0, 2, 1, 3]]).2 ∧
    (step demoCfg (setReference init [[1], [0]]) [[3], [2]] demoAdj [[0, 1, 2, 3], [0, 2, 1, 3]]).1.drift = .drift := by
  decide +kernel

example : Rel demoState (setReference init [[1], [0]]) :=
  ⟨some [[1], [0]], List.Perm.swap _ _ _, rfl⟩

end Demo18

end MV.NNDVI.C18
