/-
  C03 — ADWIN keeps exact statistics of its adaptive window and cuts it by its rule;
  ADWINAccuracy = ADWIN on the agreement indicators.

  For every carrier, hence also the executed `Float` instance (no arithmetic law used): the bookkeeping of
  width / total / recs / drift over histories; what one update does is in `Lemmas/AdwinStruct.lean`.
  For every ordered field: the exact-statistics invariant over all histories and the cut rule read on the window.
  Over ℝ: `Props/C03Real.lean`.

  Domain: `1 ≤ subwindow_size_thresh` (the property's domain; with 0 the code divides 0/0 on a
  split with an empty newer part).  `max_buckets ≥ 1` and `new_sample_thresh ≥ 1` are needed by the
  real code to run (see `Model/Adwin.lean`); of the theorems below only `rows_le` assumes `max_buckets ≥ 1`.
-/
import MenelausVerif.Lemmas.AdwinStats
import Mathlib.Data.List.Induction
namespace MV.Adwin

section every_carrier
variable {α : Type} [Add α] [Sub α] [Mul α] [Div α] [Neg α] [LT α] [DecidableLT α]
  [NatCast α] [HasSqrt α] [HasLogExp α]

/-- the two cases of `step_loop` under one `k` (`k = 0`: no bucket dropped), the fields of `LoopResult` written out -/
theorem step_spec (c : Cfg α) (hsub : 1 ≤ c.subThresh) (s : State α) (hs : SInv s) (x : α) :
    SInv (step c s x) ∧ (step c s x).total = s.total + 1 ∧
    ∃ k, flat (step c s x).rows = (flat (afterAdd c s x).rows).drop k ∧
      (step c s x).W + sizeOf ((flat (afterAdd c s x).rows).take k) = s.W + 1 ∧
      (k = 0 → step c s x = afterAdd c s x) ∧
      (0 < k → scheduled c (afterAdd c s x) = true ∧ hit c (afterAdd c s x) = true ∧
        (step c s x).drift = .drift ∧ c.subThresh ≤ (step c s x).W ∧
        (step c s x).recs = (some ((step c s x).total - (step c s x).W), some ((step c s x).total - 1))) ∧
      (scheduled c (afterAdd c s x) = true → hit c (step c s x) = false) ∧
      (k = 0 → scheduled c (afterAdd c s x) = true → hit c (afterAdd c s x) = false) := by
  have ha := sinv_afterAdd c s hs x
  rcases step_loop c hsub s hs x with ⟨e, hq⟩ | ⟨hsch, k, hk, r⟩
  · rw [e]
    exact ⟨ha, afterAdd_total c s x, 0, rfl, afterAdd_W c s x, fun _ => rfl, fun h => absurd h (Nat.lt_irrefl 0),
      hq, fun _ => hq⟩
  · obtain ⟨p1, p2, p3, p4⟩ := r.pos hk
    exact ⟨r.sinv ha, r.total.trans (afterAdd_total c s x), k, r.flat_eq, afterAdd_W c s x ▸ r.width, r.zero,
      fun _ => ⟨hsch, p1, p2, p3, by rw [p4, r.total]⟩, fun _ => r.settled, fun h0 => absurd h0 (Nat.ne_of_gt hk)⟩

/-- `total_samples` counts the updates -/
theorem run_total (c : Cfg α) (hsub : 1 ≤ c.subThresh) (xs : List α) : (run c xs).total = xs.length := by
  induction xs using List.reverseRecOn with
  | nil => rfl
  | append_singleton xs x ih =>
    rw [run_snoc, step_total, ih, List.length_append]; rfl

/-- the subtraction `W - n` in `_remove_last` never underflows: whenever a scan hits, the oldest
    bucket (of `2^(rows-1)` samples) is smaller than the window by at least `subwindow_size_thresh` -/
theorem cut_no_underflow (c : Cfg α) (hsub : 1 ≤ c.subThresh) (s : State α) (h : Shape s.rows s.W)
    (hh : hit c s = true) : 2 ^ (s.rows.length - 1) + c.subThresh ≤ s.W := by
  obtain ⟨e, rest, hf, hb⟩ := scan_true_bound c s hsub _ _ _ _ _ hh
  obtain ⟨rfl, -⟩ := flat_removeRows h.1 hf
  exact hb

/-- the number of buckets is enough fuel: after `_shrink_window` ran a scheduled check, no split
    of the retained window is a hit -/
theorem shrink_settles (c : Cfg α) (hsub : 1 ≤ c.subThresh) (s : State α) (h : Shape s.rows s.W)
    (hsch : scheduled c s = true) : hit c (shrink c s) = false := by
  rcases shrink_cases c hsub s h with ⟨h0, -⟩ | ⟨-, k, r⟩
  · rw [hsch] at h0; cases h0
  · exact r.settled

/-- **no row of the model holds more than `max_buckets` buckets after an update**, for `max_buckets ≥ 1`
    (inside `_compress_buckets` a row reaches `max_buckets + 1`, the size of the real arrays, before its two oldest
    buckets are merged: the hypothesis of `rowsLe_compress`) -/
theorem rows_le (c : Cfg α) (hM : 1 ≤ c.maxBuckets) (xs : List α) : RowsLe c.maxBuckets (run c xs).rows :=
  run_induction c (fun s => RowsLe c.maxBuckets s.rows) (rowsLe_step c hM) (List.forall_mem_singleton.2 (Nat.zero_le _)) xs

/-- after at least one update the window is not empty -/
theorem run_W_pos (c : Cfg α) (hsub : 1 ≤ c.subThresh) (xs : List α) (hne : xs ≠ []) :
    1 ≤ (run c xs).W := by
  rcases List.eq_nil_or_concat xs with h | ⟨ys, y, rfl⟩
  · exact absurd h hne
  · rw [List.concat_eq_append, run_snoc]
    exact (width_step c hsub _ (sinv_run c hsub ys) y).2.1

end every_carrier

def lastN {K : Type} (n : Nat) (l : List K) : List K := l.drop (l.length - n)

/-- the last `n` of `l`, one more appended and `m` dropped from the front, are the last `n + 1 - m` -/
theorem lastN_snoc {K : Type} (l : List K) (x : K) {n m n' : Nat} (hn : n ≤ l.length) (h : m + n' = n + 1) :
    (lastN n l ++ [x]).drop m = lastN n' (l ++ [x]) := by
  unfold lastN
  rw [← List.drop_append_of_le_length (Nat.sub_le _ _), List.drop_drop, List.length_append,
    List.length_singleton]
  congr 1
  omega

/- `sqrt` / `log` may be *any* functions on the field: exactness of the statistics does not depend on which cuts
   are taken. -/
section ordered_field
variable {K : Type} [Field K] [LinearOrder K] [IsStrictOrderedRing K] [HasSqrt K] [HasLogExp K]

/-- **the invariant over every history**: the state's window is exactly the last `W` inputs, the
    bucket rows partition it into chunks of sizes `2^row` with exact totals and sums of squared
    deviations, and the running total / variance are exact -/
theorem exact_run (c : Cfg K) (hsub : 1 ≤ c.subThresh) (xs : List K) :
    (run c xs).W ≤ xs.length ∧ FInv (run c xs) (lastN (run c xs).W xs) := by
  induction xs using List.reverseRecOn with
  | nil => exact ⟨Nat.le_refl _, finv_init⟩
  | append_singleton xs x ih =>
    obtain ⟨hle, hf⟩ := ih
    obtain ⟨m, g1, g2⟩ := finv_step c hsub _ (sinv_run c hsub xs) _ hf x
    rw [run_snoc, ← lastN_snoc xs x hle g2, List.length_append, List.length_singleton]
    exact ⟨by omega, g1⟩

/-- **`mean()` is the mean of exactly the `W` most recent inputs** -/
theorem mean_exact (c : Cfg K) (hsub : 1 ≤ c.subThresh) (xs : List K) (hne : xs ≠ []) :
    mean (run c xs) = (lastN (run c xs).W xs).sum / ((run c xs).W : K)
    ∧ (lastN (run c xs).W xs).length = (run c xs).W ∧ 1 ≤ (run c xs).W := by
  obtain ⟨_, hf⟩ := exact_run c hsub xs
  have hp := run_W_pos c hsub xs hne
  refine ⟨?_, hf.len, hp⟩
  unfold mean
  rw [if_neg (by omega), hf.sum]

/-- **`variance()` is the population variance of exactly the `W` most recent inputs**:
    `(1/W) Σ (x − x̄)²` over the last `W` inputs, `x̄` their mean -/
theorem variance_exact (c : Cfg K) (hsub : 1 ≤ c.subThresh) (xs : List K) (hne : xs ≠ []) :
    variance (run c xs) =
      ((lastN (run c xs).W xs).map (fun x =>
          (x - (lastN (run c xs).W xs).sum / ((run c xs).W : K)) *
          (x - (lastN (run c xs).W xs).sum / ((run c xs).W : K)))).sum / ((run c xs).W : K) := by
  obtain ⟨_, hf⟩ := exact_run c hsub xs
  have hp := run_W_pos c hsub xs hne
  unfold variance
  rw [if_neg (by omega), hf.var]
  have := dev_eq (lastN (run c xs).W xs)
  unfold dev at this
  rw [hf.len] at this
  rw [this]

/-- number of samples in the `k+1` oldest buckets: the position of the `k`-th bucket boundary -/
def boundary (s : State K) (k : Nat) : Nat := sizeOf ((flat s.rows).take (k + 1))

/-- **the cut rule read on the window itself**: a scan hits iff some bucket boundary `n0` other
    than the end of the youngest bucket splits the window into an older part `win.take n0` and a
    newer part `win.drop n0`, both of at least `subwindow_size_thresh` samples, whose means differ
    by more than the epsilon-cut for the chosen delta. -/
theorem hit_iff_window (c : Cfg K) (s : State K) (win : List K) (hf : FInv s win) :
    hit c s = true ↔
      ∃ k, ∃ hk : k < (flat s.rows).length,
        ¬ (k + 1 = (flat s.rows).length ∧ ((flat s.rows)[k]).1 = 0) ∧
        c.subThresh ≤ boundary s k ∧ c.subThresh ≤ s.W - boundary s k ∧
        epsCut c s.W (variance s) (boundary s k) (s.W - boundary s k) <
          |(win.take (boundary s k)).sum / ((boundary s k : Nat) : K)
            - (win.drop (boundary s k)).sum / ((s.W - boundary s k : Nat) : K)| := by
  obtain ⟨cs, hg, hfl⟩ := hf.good
  rw [hit_iff]
  refine exists_congr fun k => exists_congr fun hk => and_congr_right fun _ => and_congr_right fun _ =>
    and_congr_right fun _ => ?_
  have hpre := good_prefix hg (k + 1)
  rw [hfl] at hpre
  have hsplit : win.sum = (win.take (boundary s k)).sum + (win.drop (boundary s k)).sum := by
    rw [← List.sum_append, List.take_append_drop]
  simp only [checkEps, decide_eq_true_eq, absOf_eq_abs, windowDiff, accT0_eq, accT1_eq, hpre, hf.sum,
    Nat.cast_zero, Nat.cast_one, zero_add, one_mul]
  rw [show boundary s k = sizeOf ((flat s.rows).take (k + 1)) from rfl] at hsplit ⊢
  rw [hsplit, add_sub_cancel_left]

/-- **the cut rule along a history**: the update with `x` after the history `xs` reports drift iff
    the check is scheduled and the window `last W inputs ++ [x]` has a bucket boundary whose two
    sides differ in mean by more than the epsilon-cut -/
theorem run_drift_iff (c : Cfg K) (hsub : 1 ≤ c.subThresh) (xs : List K) (x : K) :
    (run c (xs ++ [x])).drift = .drift ↔
      scheduled c (afterAdd c (run c xs) x) = true ∧
      ∃ k, ∃ hk : k < (flat (afterAdd c (run c xs) x).rows).length,
        ¬ (k + 1 = (flat (afterAdd c (run c xs) x).rows).length ∧ ((flat (afterAdd c (run c xs) x).rows)[k]).1 = 0) ∧
        c.subThresh ≤ boundary (afterAdd c (run c xs) x) k ∧
        c.subThresh ≤ (run c xs).W + 1 - boundary (afterAdd c (run c xs) x) k ∧
        epsCut c ((run c xs).W + 1) (variance (afterAdd c (run c xs) x)) (boundary (afterAdd c (run c xs) x) k)
            ((run c xs).W + 1 - boundary (afterAdd c (run c xs) x) k) <
          |((lastN (run c xs).W xs ++ [x]).take (boundary (afterAdd c (run c xs) x) k)).sum
              / ((boundary (afterAdd c (run c xs) x) k : Nat) : K)
            - ((lastN (run c xs).W xs ++ [x]).drop (boundary (afterAdd c (run c xs) x) k)).sum
              / (((run c xs).W + 1 - boundary (afterAdd c (run c xs) x) k : Nat) : K)| := by
  have hs := sinv_run c hsub xs
  obtain ⟨_, hf⟩ := exact_run c hsub xs
  have ha := finv_afterAdd c _ _ hf x
  rw [run_snoc, step_drift_iff c hsub _ hs x, hit_iff_window c _ _ ha, afterAdd_W]

end ordered_field

section accuracy
variable {α β : Type} [Add α] [Sub α] [Mul α] [Div α] [Neg α] [LT α] [DecidableLT α]
  [NatCast α] [HasSqrt α] [HasLogExp α] [DecidableEq β]

/-- **ADWINAccuracy behaves exactly as ADWIN, with the constructor parameters it was given, on the
    stream of indicators `1{y_true == y_pred}`** (whatever the label type) -/
theorem adwinAcc_eq_adwin (c : Cfg α) (ys : List (β × β)) :
    AdwinAcc.run c ys = Adwin.run c (ys.map fun y => AdwinAcc.indicator y.1 y.2) := by
  unfold AdwinAcc.run Adwin.run
  rw [List.foldl_map]; rfl

end accuracy

section accuracy_exact
variable {K β : Type} [Field K] [LinearOrder K] [IsStrictOrderedRing K] [HasSqrt K] [HasLogExp K] [DecidableEq β]

/-- ADWINAccuracy's `mean()` is the fraction of agreeing pairs among the last `W` label pairs -/
theorem adwinAcc_mean_exact (c : Cfg K) (hsub : 1 ≤ c.subThresh) (ys : List (β × β)) (hne : ys ≠ []) :
    mean (AdwinAcc.run c ys) =
      (lastN (AdwinAcc.run c ys).W (ys.map fun y => (AdwinAcc.indicator y.1 y.2 : K))).sum
        / ((AdwinAcc.run c ys).W : K) := by
  rw [adwinAcc_eq_adwin]
  exact (mean_exact c hsub _ (by simpa using hne)).1

end accuracy_exact

/- concrete histories over ℚ, with arbitrary stand-ins for sqrt / log -/
section examples
local instance : HasSqrt ℚ := ⟨id⟩
local instance : HasLogExp ℚ := ⟨fun _ => 1, fun _ => 1⟩

/-- conservative bound, `max_buckets = 2`, check at every sample -/
def cfgEx : Cfg ℚ :=
  { delta := 1, maxBuckets := 2, newSampleThresh := 1, windowThresh := 0, subThresh := 1, conservative := true }

-- a history with merges and a drift that drops two buckets: W = 1, recs = [4, 4]
example : (run cfgEx [0, 0, 0, 0, 8]).drift = .drift ∧ (run cfgEx [0, 0, 0, 0, 8]).W = 1 ∧
    (run cfgEx [0, 0, 0, 0, 8]).recs = (some 4, some 4) ∧ (run cfgEx [0, 0, 0, 0]).rows = [[(0, 0), (0, 0)], [(0, 0)]] := by
  decide +kernel
-- the next update clears drift and recs and grows the window by one
example : (run cfgEx [0, 0, 0, 0, 8, 8]).drift = .none ∧ (run cfgEx [0, 0, 0, 0, 8, 8]).W = 2 ∧
    (run cfgEx [0, 0, 0, 0, 8, 8]).recs = Recs.empty := by
  decide +kernel
-- the hypotheses of the step theorems are met by a state in which the next update cuts
example : SInv (run cfgEx [0, 0, 0, 0]) ∧ scheduled cfgEx (afterAdd cfgEx (run cfgEx [0, 0, 0, 0]) 8) = true ∧
    hit cfgEx (afterAdd cfgEx (run cfgEx [0, 0, 0, 0]) 8) = true :=
  ⟨sinv_run cfgEx (by decide) _, by decide +kernel, by decide +kernel⟩
-- exactness after a cut: the last W = 2 inputs are 8, 9: mean 17/2, population variance 1/4
example : mean (run cfgEx [0, 0, 0, 0, 8, 8, 8, 9]) = 17 / 2 ∧ variance (run cfgEx [0, 0, 0, 0, 8, 8, 8, 9]) = 1 / 4 ∧
    lastN (run cfgEx [0, 0, 0, 0, 8, 8, 8, 9]).W [0, 0, 0, 0, 8, 8, 8, 9] = [8, 9] := by
  decide +kernel
-- with `max_buckets = 1` a merge empties its row: here the head row (DESIGN §6, F3)
example : (run { cfgEx with maxBuckets := 1 } [1, 1, 1, 1, 1, 1]).rows = [[], [(2, 0)], [(4, 0)]] := by
  decide +kernel

-- `_remove_last` on `[[b], [], [c]]`: dropping the oldest bucket empties the tail row; the row is removed, and so
-- is the empty row behind it, which must not become the tail
example : dropOldest ([[(1, 0)], [], [(4, 0)]] : Rows ℚ) = [[(1, 0)], []] ∧
    trimTail ([[(1, 0)], []] : Rows ℚ) = [[(1, 0)]] := by decide +kernel

end examples
end MV.Adwin
