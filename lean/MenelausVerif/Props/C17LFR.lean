/-
  C17 — Linear Four Rates (`Model/LFR.lean`): a smaller `detect_level` is stricter; the warning clause.

  The detect bounds of a rate are the percentiles `np.percentile(v, 100·δ)` and
  `np.percentile(v, 100 − 100·δ)` (method `linear`, `percentile` / `lerp` of the model) of the
  simulated statistics `v`, δ = `detect_level`; the warning bounds the same with `warning_level`.  They
  are cached in `_bounds[(rounded rate, denominator)]`, and the cache survives `reset`.

  The percentile of a sorted sample is monotone in its level, so smaller levels give wider intervals on
  the same draws.  The two runs compared have different caches (the cached bounds depend on the
  levels) but the same keys in the same order: a key hits in both or in neither, so both runs simulate
  at the same moments and consume the same blocks of draws.  The relation between the two runs is
  kept through one pass, one loop, one update, with the flags related by implication or equality.

  Hypotheses: `FloorLaw K` (satisfied by `⌊·⌋₊`, `floorLaw_natFloor`); no
  hypothesis on `rint` (the cache key is computed identically in both runs), none on `==`.
-/
import MenelausVerif.Props.C17
import MenelausVerif.Props.C02
import MenelausVerif.Lemmas.LFRLoop
import MenelausVerif.Lemmas.LFRArith
import Mathlib.Algebra.Order.Floor.Semiring

set_option linter.unusedSectionVars false

namespace MV.C17.LFR
open MV MV.Mono MV.LFR

def isD (d : Drift) : Bool := d == .drift

section percentile
variable {K : Type} [Field K] [LinearOrder K] [IsStrictOrderedRing K] [BEq K] [HasRound K]

/-- what the percentile needs of `floor(virtual_index).astype(intp)` in exact arithmetic -/
structure FloorLaw (K : Type) [Field K] [LinearOrder K] [HasRound K] : Prop where
  le : ∀ x : K, (0 : K) ≤ x → ((floorNat x : Nat) : K) ≤ x
  lt : ∀ x : K, (0 : K) ≤ x → x < ((floorNat x : Nat) : K) + 1

theorem half_eq : (LFR.half : K) = 1 / 2 := MV.LFR.half_eq

/-- the interpolation of a sorted list at a virtual index `v` (the body of `percentile`) -/
def interp (l : List K) (v : K) : K :=
  if ((l.length - 1 : Nat) : K) ≤ v then l.getD (l.length - 1) LFR.zero
  else if v < (LFR.zero : K) then l.getD 0 LFR.zero
  else lerp (l.getD (floorNat v) LFR.zero) (l.getD (floorNat v + 1) LFR.zero) (v - ((floorNat v : Nat) : K))

theorem percentile_eq_interp (l : List K) (q : K) :
    percentile l q = interp l (((l.length - 1 : Nat) : K) * (q / LFR.hundred)) := rfl

theorem interp_of_ge (l : List K) (v : K) (h : ((l.length - 1 : Nat) : K) ≤ v) :
    interp l v = l.getD (l.length - 1) LFR.zero :=
  if_pos h

theorem interp_of_neg (l : List K) (v : K) (h : v < 0) : interp l v = l.getD 0 LFR.zero := by
  unfold interp
  rw [if_neg (not_le.2 (lt_of_lt_of_le h (Nat.cast_nonneg _))), if_pos (zero_eq (K := K) ▸ h)]

theorem interp_of_mem (l : List K) (v : K) (h0 : 0 ≤ v) (hN : v < ((l.length - 1 : Nat) : K)) :
    interp l v = lerp (l.getD (floorNat v) LFR.zero) (l.getD (floorNat v + 1) LFR.zero)
      (v - ((floorNat v : Nat) : K)) := by
  unfold interp
  rw [if_neg (not_le.2 hN), if_neg (zero_eq (K := K) ▸ not_lt.2 h0)]

theorem interp_inner (hf : FloorLaw K) {l : List K} (hl : l.Pairwise (· ≤ ·)) {v : K}
    (h0 : 0 ≤ v) (h1 : v < ((l.length - 1 : Nat) : K)) :
    floorNat v + 1 ≤ l.length - 1 ∧
    l.getD (floorNat v) LFR.zero ≤ interp l v ∧ interp l v ≤ l.getD (floorNat v + 1) LFR.zero := by
  have hk : floorNat v < l.length - 1 := Nat.cast_lt.1 (lt_of_le_of_lt (hf.le v h0) h1)
  rw [interp_of_mem l v h0 h1]
  exact ⟨hk, lerp_mem _ _ _ (getD_rel_of_pairwise le_refl l hl _ (Nat.le_succ _) hk)
    (sub_nonneg.2 (hf.le v h0)) (sub_le_iff_le_add'.2 (hf.lt v h0).le)⟩

theorem interp_range (hf : FloorLaw K) {l : List K} (hl : l.Pairwise (· ≤ ·)) (v : K) :
    l.getD 0 LFR.zero ≤ interp l v ∧ interp l v ≤ l.getD (l.length - 1) LFR.zero := by
  have hends := getD_rel_of_pairwise le_refl l hl LFR.zero (Nat.zero_le (l.length - 1)) (le_refl _)
  by_cases hN : ((l.length - 1 : Nat) : K) ≤ v
  · rw [interp_of_ge l v hN]; exact ⟨hends, le_refl _⟩
  · by_cases h0 : v < 0
    · rw [interp_of_neg l v h0]; exact ⟨le_refl _, hends⟩
    · obtain ⟨g1, g2, g3⟩ := interp_inner hf hl (not_lt.1 h0) (not_le.1 hN)
      exact ⟨le_trans (getD_rel_of_pairwise le_refl l hl _ (Nat.zero_le _) (Nat.le_of_succ_le g1)) g2,
        le_trans g3 (getD_rel_of_pairwise le_refl l hl _ g1 (le_refl _))⟩

theorem interp_mono (hf : FloorLaw K) (l : List K) (hl : l.Pairwise (· ≤ ·)) (v1 v2 : K) (h : v1 ≤ v2) :
    interp l v1 ≤ interp l v2 := by
  by_cases h2 : ((l.length - 1 : Nat) : K) ≤ v2
  · rw [interp_of_ge l v2 h2]; exact (interp_range hf hl v1).2
  have h2 := not_le.1 h2
  by_cases h1 : v1 < 0
  · rw [interp_of_neg l v1 h1]; exact (interp_range hf hl v2).1
  have h10 := not_lt.1 h1
  have h20 := le_trans h10 h
  obtain ⟨_, _, a3⟩ := interp_inner hf hl h10 (lt_of_le_of_lt h h2)
  obtain ⟨b1, b2, _⟩ := interp_inner hf hl h20 h2
  have hk : floorNat v1 ≤ floorNat v2 :=
    Nat.lt_succ_iff.1 (Nat.cast_lt.1 (lt_of_le_of_lt (le_trans (hf.le v1 h10) h)
      (by rw [Nat.cast_succ]; exact hf.lt v2 h20)))
  rcases Nat.eq_or_lt_of_le hk with heq | hlt
  · -- same cell: `lerp` is monotone in its weight
    rw [interp_of_mem l v1 h10 (lt_of_le_of_lt h h2), interp_of_mem l v2 h20 h2, heq]
    exact lerp_mono (getD_rel_of_pairwise le_refl l hl _ (Nat.le_succ _) b1) (sub_le_sub_right h _)
  · exact le_trans a3 (le_trans (getD_rel_of_pairwise le_refl l hl _ hlt (Nat.le_of_succ_le b1)) b2)

/-- **`np.percentile(·, q)` (method `linear`) of a sorted sample is monotone in `q`** (every `q`) -/
theorem percentile_mono (hf : FloorLaw K) (l : List K) (hl : l.Pairwise (· ≤ ·)) (q1 q2 : K) (h : q1 ≤ q2) :
    percentile l q1 ≤ percentile l q2 := by
  rw [percentile_eq_interp, percentile_eq_interp]
  exact interp_mono hf l hl _ _ (mul_le_mul_of_nonneg_left
    (div_le_div_of_nonneg_right h (Nat.cast_nonneg 100)) (Nat.cast_nonneg _))

/-- the four bounds of the stricter run (`bS`) enclose those of the looser run (`bL`) -/
structure Nested (bL bS : Bounds K) : Prop where
  lbWarn : bS.lbWarn ≤ bL.lbWarn
  ubWarn : bL.ubWarn ≤ bS.ubWarn
  lbDetect : bS.lbDetect ≤ bL.lbDetect
  ubDetect : bL.ubDetect ≤ bS.ubDetect

/-- **the simulated intervals are nested**: same draws, same `eta`, smaller levels ⇒ wider
    intervals (`[P_δ, P_{100−δ}]` grows as δ shrinks) -/
theorem simBounds_nested (hf : FloorLaw K) (cL cS : Cfg K) (heta : cL.eta = cS.eta)
    (hw : cS.warnLevel ≤ cL.warnLevel) (hd : cS.detectLevel ≤ cL.detectLevel) (denom : Nat) (block : Block) :
    Nested (simBounds cL denom block) (simBounds cS denom block) := by
  have h100 : (0 : K) ≤ LFR.hundred := Nat.cast_nonneg _
  unfold simBounds
  simp only [heta]
  have hs := (sort_spec (block.map (statOf cS.eta (prods cS.eta denom)))).2
  constructor
  · exact percentile_mono hf _ hs _ _ (mul_le_mul_of_nonneg_right hw h100)
  · exact percentile_mono hf _ hs _ _ (sub_le_sub_left (mul_le_mul_of_nonneg_right hw h100) _)
  · exact percentile_mono hf _ hs _ _ (mul_le_mul_of_nonneg_right hd h100)
  · exact percentile_mono hf _ hs _ _ (sub_le_sub_left (mul_le_mul_of_nonneg_right hd h100) _)

theorem outside_nested (x lbL ubL lbS ubS : K) (h1 : lbS ≤ lbL) (h2 : ubL ≤ ubS)
    (h : outside x lbS ubS = true) : outside x lbL ubL = true := by
  simp only [outside, Bool.or_eq_true, decide_eq_true_eq] at h ⊢
  rcases h with h | h
  · exact Or.inl (lt_of_lt_of_le h h1)
  · exact Or.inr (lt_of_le_of_lt h2 h)

end percentile

/-- `⌊·⌋₊` is a lawful index helper (whatever `rint` is) -/
theorem floorLaw_natFloor {K : Type} [Field K] [LinearOrder K] [IsStrictOrderedRing K] [FloorSemiring K]
    (ri : K → K) : @FloorLaw K _ _ ⟨fun x => ⌊x⌋₊, ri⟩ :=
  @FloorLaw.mk K _ _ ⟨fun x => ⌊x⌋₊, ri⟩ (fun _ hx => Nat.floor_le hx) (fun x _ => Nat.lt_floor_add_one x)

section carrier
variable {α : Type} [Add α] [Sub α] [Mul α] [Div α] [LT α] [DecidableLT α] [LE α] [DecidableLE α]
  [NatCast α] [BEq α] [HasRound α]

/-- two configurations that agree on everything but the two levels (`num_mc` is not read by the
    model: the draws are inputs) -/
structure CfgAgree (cL cS : Cfg α) : Prop where
  eta : cL.eta = cS.eta
  burnIn : cL.burnIn = cS.burnIn
  subsample : cL.subsample = cS.subsample
  tracked : cL.tracked = cS.tracked
  roundVal : cL.roundVal = cS.roundVal

/-- two bounds caches with the same keys in the same order, values related through `P` -/
def CRel (P : Bounds α → Bounds α → Prop) : Cache α → Cache α → Prop :=
  Zip (fun eL eS => eL.1 = eS.1 ∧ P eL.2 eS.2)

theorem lookup_rel {P : Bounds α → Bounds α → Prop} {cL cS : Cache α} (h : CRel P cL cS) (k : α × Nat) :
    (lookup k cL = none ∧ lookup k cS = none) ∨
    ∃ bL bS, lookup k cL = some bL ∧ lookup k cS = some bS ∧ P bL bS := by
  induction h with
  | nil => exact Or.inl ⟨rfl, rfl⟩
  | @cons eL eS xs ys hq _ ih =>
    obtain ⟨kL, bL⟩ := eL
    obtain ⟨kS, bS⟩ := eS
    obtain ⟨hk, hp⟩ := hq
    simp only at hk hp
    subst hk
    simp only [lookup]
    split
    · exact Or.inr ⟨bL, bS, rfl, rfl, hp⟩
    · exact ih

/-- the flag relations `FA` (alarm flags looser / stricter), `FW` (warning flags) follow from the
    relation `P` between the bounds -/
structure Link (P : Bounds α → Bounds α → Prop) (FA FW : Bool → Bool → Prop) : Prop where
  alarm : ∀ bL bS (x : α), P bL bS → FA (outside x bL.lbDetect bL.ubDetect) (outside x bS.lbDetect bS.ubDetect)
  warn : ∀ bL bS (x : α), P bL bS → FW (outside x bL.lbWarn bL.ubWarn) (outside x bS.lbWarn bS.ubWarn)
  alarm0 : FA false false
  warn0 : FW false false

structure AccRel (P : Bounds α → Bounds α → Prop) (FA FW : Bool → Bool → Prop) (aL aS : Acc α) : Prop where
  r : aL.r = aS.r
  p : aL.p = aS.p
  blocks : aL.blocks = aS.blocks
  cache : CRel P aL.cache aS.cache
  alarm : ∀ rate, FA (aL.alarm rate) (aS.alarm rate)
  warn : ∀ rate, FW (aL.warn rate) (aS.warn rate)

theorem gate_agree {cL cS : Cfg α} (hc : CfgAgree cL cS) (n : Nat) : gate cL n = gate cS n := by
  unfold gate; rw [hc.burnIn, hc.subsample]

theorem newR_agree {cL cS : Cfg α} (hc : CfgAgree cL cS) (x : Ctx α) (cur : α) (rate : Rate) :
    newR cL x cur rate = newR cS x cur rate := by
  unfold newR; rw [hc.eta]

theorem keyOf_agree {cL cS : Cfg α} (hc : CfgAgree cL cS) (est : α) (denom : Nat) :
    keyOf cL est denom = keyOf cS est denom := by
  unfold keyOf; rw [hc.roundVal]

/-- `_update_bounds_dict` in the two runs: both hit or both simulate (on the same block) -/
theorem getBounds_rel {P : Bounds α → Bounds α → Prop} {FA FW : Bool → Bool → Prop} {cL cS : Cfg α}
    (hc : CfgAgree cL cS)
    (hsim : ∀ denom block, P (simBounds cL denom block) (simBounds cS denom block))
    (aL aS : Acc α) (h : AccRel P FA FW aL aS) (est : α) (denom : Nat) :
    P (getBounds cL aL est denom).1 (getBounds cS aS est denom).1 ∧
    AccRel P FA FW (getBounds cL aL est denom).2 (getBounds cS aS est denom).2 := by
  have hk := keyOf_agree hc est denom
  rcases lookup_rel h.cache (keyOf cS est denom) with ⟨e1, e2⟩ | ⟨bL, bS, e1, e2, hp⟩
  · rw [getBounds_miss cL aL est denom (hk ▸ e1), getBounds_miss cS aS est denom e2]
    have hb : P (simNext cL aL denom) (simNext cS aS denom) := by
      unfold simNext; rw [h.blocks]; exact hsim _ _
    exact ⟨hb, h.r, h.p, congrArg List.tail h.blocks, Zip.append h.cache (Zip.cons ⟨hk, hb⟩ Zip.nil),
      h.alarm, h.warn⟩
  · rw [getBounds_hit cL aL est denom (hk ▸ e1), getBounds_hit cS aS est denom e2]
    exact ⟨hp, h⟩

theorem calcRate_rel {P : Bounds α → Bounds α → Prop} {FA FW : Bool → Bool → Prop} {cL cS : Cfg α}
    (hc : CfgAgree cL cS) (hl : Link P FA FW)
    (hsim : ∀ denom block, P (simBounds cL denom block) (simBounds cS denom block))
    (x : Ctx α) (aL aS : Acc α) (h : AccRel P FA FW aL aS) (rate : Rate) :
    AccRel P FA FW (calcRate cL x aL rate) (calcRate cS x aS rate) := by
  unfold calcRate
  rw [gate_agree hc, newR_agree hc, h.r, h.p]
  have h1 : AccRel P FA FW
      { aL with p := aS.p.set rate (x.new rate), r := aS.r.set rate (newR cS x (aS.r rate) rate) }
      { aS with p := aS.p.set rate (x.new rate), r := aS.r.set rate (newR cS x (aS.r rate) rate) } :=
    ⟨rfl, rfl, h.blocks, h.cache, h.alarm, h.warn⟩
  cases hg : gate cS x.n with
  | false => simpa using h1
  | true =>
    simp only [if_true]
    obtain ⟨hp, hacc⟩ := getBounds_rel hc hsim _ _ h1 (x.new rate) (x.conf.den rate)
    exact ⟨hacc.r, hacc.p, hacc.blocks, hacc.cache,
      fun r => Four.set_rel rate r (hacc.alarm r) (hl.alarm _ _ _ hp),
      fun r => Four.set_rel rate r (hacc.warn r) (hl.warn _ _ _ hp)⟩

theorem loop_rel {P : Bounds α → Bounds α → Prop} {FA FW : Bool → Bool → Prop} {cL cS : Cfg α}
    (hc : CfgAgree cL cS) (hl : Link P FA FW)
    (hsim : ∀ denom block, P (simBounds cL denom block) (simBounds cS denom block))
    (x : Ctx α) (l : List Rate) : ∀ (aL aS : Acc α), AccRel P FA FW aL aS →
    AccRel P FA FW (l.foldl (calcRate cL x) aL) (l.foldl (calcRate cS x) aS) :=
  Twin.run_related _ _ _ (fun aL aS r h => calcRate_rel hc hl hsim x aL aS h r) l

/-- the statistics of the two runs: everything the loop reads, caches related through `P`;
    `drift_state` is related separately (it differs between the three theorems) -/
structure StateRel (P : Bounds α → Bounds α → Prop) (sL sS : State α) : Prop where
  total : sL.total = sS.total
  since : sL.since = sS.since
  conf : sL.conf = sS.conf
  p : sL.p = sS.p
  r : sL.r = sS.r
  cache : CRel P sL.cache sS.cache

theorem StateRel.init {P : Bounds α → Bounds α → Prop} : StateRel P (init : State α) init :=
  ⟨rfl, rfl, rfl, rfl, rfl, Zip.nil⟩

theorem step_rel {P : Bounds α → Bounds α → Prop} {FA FW : Bool → Bool → Prop} {cL cS : Cfg α}
    (hc : CfgAgree cL cS) (hl : Link P FA FW)
    (hsim : ∀ denom block, P (simBounds cL denom block) (simBounds cS denom block))
    (sL sS : State α) (h : StateRel P sL sS) (hd : sL.drift = .drift ↔ sS.drift = .drift)
    (yt yp : Bool) (bl : List Block) :
    AccRel P FA FW (stepAcc cL sL yt yp bl) (stepAcc cS sS yt yp bl) ∧
    StateRel P (step cL sL yt yp bl) (step cS sS yt yp bl) := by
  have h0 : StateRel P (preReset sL) (preReset sS) :=
    Twin.pre_rel h hd ⟨h.total, rfl, rfl, rfl, rfl, h.cache⟩
  have hx : ctxOf (preReset sL) yt yp = ctxOf (preReset sS) yt yp := by
    unfold ctxOf; rw [h0.r, h0.conf, h0.since]
  have ha0 : AccRel P FA FW (acc0 (preReset sL) bl) (acc0 (preReset sS) bl) :=
    ⟨h0.r, h0.p, rfl, h0.cache, fun _ => hl.alarm0, fun _ => hl.warn0⟩
  have hacc : AccRel P FA FW (stepAcc cL sL yt yp bl) (stepAcc cS sS yt yp bl) := by
    rw [stepAcc_eq, stepAcc_eq, hx, hc.tracked]
    exact loop_rel hc hl hsim _ _ _ _ ha0
  -- by definition `step` adds one to the counters `preReset` leaves, bumps its matrix, copies the rest from the loop
  exact ⟨hacc, congrArg (· + 1) h0.total, congrArg (· + 1) h0.since, congrArg (Conf.bump · yt yp) h0.conf,
    hacc.p, hacc.r, hacc.cache⟩

def DetEq (bL bS : Bounds α) : Prop := bL.lbDetect = bS.lbDetect ∧ bL.ubDetect = bS.ubDetect

theorem cfgAgree_warn (c : Cfg α) (w1 w2 : α) :
    CfgAgree { c with warnLevel := w1 } { c with warnLevel := w2 } := ⟨rfl, rfl, rfl, rfl, rfl⟩

theorem link_detEq : Link (α := α) DetEq Eq (fun _ _ => True) :=
  ⟨fun _ _ _ h => by rw [h.1, h.2], fun _ _ _ _ => trivial, rfl, trivial⟩

theorem decide3_drift_congr {aL aS : Acc α} (h : ∀ r, aL.alarm r = aS.alarm r) :
    decide3 aL = .drift ↔ decide3 aS = .drift := by
  rw [decide3_eq_drift, decide3_eq_drift]
  exact exists_congr fun r => by rw [h r]

theorem step_ignores_warning (c : Cfg α) (w1 w2 : α) (s1 s2 : State α)
    (h : StateRel DetEq s1 s2 ∧ (s1.drift = .drift ↔ s2.drift = .drift)) (o : Op) :
    StateRel DetEq (step { c with warnLevel := w1 } s1 o.yt o.yp o.blocks)
        (step { c with warnLevel := w2 } s2 o.yt o.yp o.blocks) ∧
      ((step { c with warnLevel := w1 } s1 o.yt o.yp o.blocks).drift = .drift ↔
        (step { c with warnLevel := w2 } s2 o.yt o.yp o.blocks).drift = .drift) := by
  have hsim : ∀ denom block, DetEq (simBounds { c with warnLevel := w1 } denom block)
      (simBounds { c with warnLevel := w2 } denom block) := fun _ _ => ⟨rfl, rfl⟩
  obtain ⟨hacc, hst⟩ := step_rel (cfgAgree_warn c w1 w2) link_detEq hsim s1 s2 h.1 h.2 o.yt o.yp o.blocks
  exact ⟨hst, decide3_drift_congr hacc.alarm⟩

/-- **the warning level enters neither the statistics nor the drift decision**: two LFR
    configurations that differ in `warning_level` only have, after every history (same draws), the same
    counters, confusion matrix, `_p_table`, `_r_stat`, the same cache keys with equal detect bounds,
    and report drift at exactly the same positions.  No arithmetic law is used: this holds for every
    carrier, in particular for the executed `Float` model. -/
theorem lfr_drift_ignores_warning (c : Cfg α) (w1 w2 : α) (ops : List Op) :
    StateRel DetEq (run { c with warnLevel := w1 } ops) (run { c with warnLevel := w2 } ops) ∧
    ((run { c with warnLevel := w1 } ops).drift = .drift ↔
      (run { c with warnLevel := w2 } ops).drift = .drift) :=
  Twin.run_related _ _ (fun s1 s2 => StateRel DetEq s1 s2 ∧ (s1.drift = .drift ↔ s2.drift = .drift))
    (fun a b o h => step_ignores_warning c w1 w2 a b h o) ops init init
    ⟨.init, Iff.rfl⟩

end carrier

section field
variable {K : Type} [Field K] [LinearOrder K] [IsStrictOrderedRing K] [BEq K] [HasRound K]

theorem link_nested : Link (α := K) Nested (fun l s => s = true → l = true) (fun l s => s = true → l = true) :=
  ⟨fun _ _ x h => outside_nested x _ _ _ _ h.lbDetect h.ubDetect,
   fun _ _ x h => outside_nested x _ _ _ _ h.lbWarn h.ubWarn, id, id⟩

def stepOp (c : Cfg K) (s : State K) (o : Op) : State K := step c s o.yt o.yp o.blocks

/-- the two runs before the first alarm: related statistics, nested cached intervals, not in drift -/
def LRel (sL sS : State K) : Prop := StateRel Nested sL sS ∧ sL.drift ≠ .drift ∧ sS.drift ≠ .drift

/-- **one update under the two settings**: a drift of the stricter run forces a drift of the looser
    run, and unless the looser run reports drift the relation is kept -/
theorem step_sim (hf : FloorLaw K) (cL cS : Cfg K) (hc : CfgAgree cL cS)
    (hw : cS.warnLevel ≤ cL.warnLevel) (hd : cS.detectLevel ≤ cL.detectLevel)
    (sL sS : State K) (o : Op) (h : LRel sL sS) :
    (isD (stepOp cS sS o).drift = true → isD (stepOp cL sL o).drift = true) ∧
    (isD (stepOp cL sL o).drift = false → LRel (stepOp cL sL o) (stepOp cS sS o)) := by
  obtain ⟨hst, hqL, hqS⟩ := h
  obtain ⟨hacc, hst'⟩ := step_rel hc link_nested (simBounds_nested hf cL cS hc.eta hw hd) sL sS hst
    ⟨fun h => absurd h hqL, fun h => absurd h hqS⟩ o.yt o.yp o.blocks
  have himp : (stepOp cS sS o).drift = .drift → (stepOp cL sL o).drift = .drift := by
    unfold stepOp
    rw [step_drift, step_drift, decide3_eq_drift, decide3_eq_drift]
    rintro ⟨r, hr⟩
    exact ⟨r, hacc.alarm r hr⟩
  refine ⟨fun hb => beq_iff_eq.2 (himp (beq_iff_eq.1 hb)), fun ha => ?_⟩
  have hL := beq_eq_false_iff_ne.1 ha
  exact ⟨hst', hL, fun hS => hL (himp hS)⟩

/-- **LFR: smaller levels never make the first drift earlier.**  Two configurations that agree on
    everything but the levels, `detect_level` (and `warning_level`) of the stricter one at most that of
    the looser one; from every pair of related non-drift states (e.g. the fresh detector), for every
    history of labelled samples and every schedule of Monte-Carlo draws (the same for both runs). -/
theorem lfr_first_drift_mono_cfg (hf : FloorLaw K) (cL cS : Cfg K) (hc : CfgAgree cL cS)
    (hw : cS.warnLevel ≤ cL.warnLevel) (hd : cS.detectLevel ≤ cL.detectLevel)
    (sL sS : State K) (h : LRel sL sS) (ops : List Op) :
    NoLater (firstIdx (driftTrace (stepOp cL) (fun s => isD s.drift) sL ops))
      (firstIdx (driftTrace (stepOp cS) (fun s => isD s.drift) sS ops)) :=
  sim_first_drift_mono_same _ _ _ _ LRel (fun a b o h => step_sim hf cL cS hc hw hd a b o h) ops sL sS h

/-- **LFR: a smaller `detect_level` never makes the first drift earlier** (only the detection level
    differs; fresh detector, every history, same draws) -/
theorem lfr_first_drift_mono (hf : FloorLaw K) (c : Cfg K) (loose strict : K) (hle : strict ≤ loose)
    (ops : List Op) :
    NoLater (firstIdx (driftTrace (stepOp { c with detectLevel := loose }) (fun s => isD s.drift) init ops))
      (firstIdx (driftTrace (stepOp { c with detectLevel := strict }) (fun s => isD s.drift) init ops)) :=
  lfr_first_drift_mono_cfg hf { c with detectLevel := loose } { c with detectLevel := strict }
    ⟨rfl, rfl, rfl, rfl, rfl⟩ (le_refl _) hle init init
    ⟨.init, by simp [init], by simp [init]⟩ ops

/-- the positions of `driftTrace` are the states of `run` -/
theorem run_eq_foldl (c : Cfg K) (ops : List Op) : run c ops = ops.foldl (stepOp c) init := rfl

def WarnNested (bL bS : Bounds K) : Prop := DetEq bL bS ∧ bS.lbWarn ≤ bL.lbWarn ∧ bL.ubWarn ≤ bS.ubWarn

theorem link_warnNested : Link (α := K) WarnNested Eq (fun l s => s = true → l = true) :=
  ⟨fun _ _ _ h => by rw [h.1.1, h.1.2],
   fun _ _ x h => outside_nested x _ _ _ _ h.2.1 h.2.2, rfl, id⟩

def WRel (sL sS : State K) : Prop :=
  StateRel WarnNested sL sS ∧ (sL.drift = .drift ↔ sS.drift = .drift) ∧
    (sS.drift = .warning → sL.drift = .warning)

theorem step_wrel (hf : FloorLaw K) (c : Cfg K) (wL wS : K) (hle : wS ≤ wL) (sL sS : State K) (o : Op)
    (h : WRel sL sS) :
    WRel (stepOp { c with warnLevel := wL } sL o) (stepOp { c with warnLevel := wS } sS o) := by
  obtain ⟨hst, hd, _⟩ := h
  have hsim : ∀ denom block, WarnNested (simBounds { c with warnLevel := wL } denom block)
      (simBounds { c with warnLevel := wS } denom block) := by
    intro denom block
    have hn := simBounds_nested hf { c with warnLevel := wL } { c with warnLevel := wS } rfl hle
      (le_refl _) denom block
    exact ⟨⟨rfl, rfl⟩, hn.lbWarn, hn.ubWarn⟩
  obtain ⟨hacc, hst'⟩ := step_rel (cfgAgree_warn c wL wS) link_warnNested hsim sL sS hst hd
    o.yt o.yp o.blocks
  refine ⟨hst', decide3_drift_congr hacc.alarm, ?_⟩
  unfold stepOp
  rw [step_drift, step_drift, decide3_eq_warning, decide3_eq_warning, ← decide3_eq_drift, ← decide3_eq_drift]
  rintro ⟨h1, r, hr⟩
  exact ⟨fun h => h1 ((decide3_drift_congr hacc.alarm).1 h), r, hacc.warn r hr⟩

/-- **LFR, warning clause.**  Two configurations that differ in `warning_level` only (`wS ≤ wL`: the
    first is looser) report, after every history (same draws), drift at exactly the same positions,
    have the same statistics, and wherever the stricter one reports warning the looser one reports
    warning too. -/
theorem lfr_warning_only (hf : FloorLaw K) (c : Cfg K) (wL wS : K) (hle : wS ≤ wL) (ops : List Op) :
    ((run { c with warnLevel := wL } ops).drift = .drift ↔
      (run { c with warnLevel := wS } ops).drift = .drift) ∧
    ((run { c with warnLevel := wS } ops).drift = .warning →
      (run { c with warnLevel := wL } ops).drift = .warning) ∧
    StateRel WarnNested (run { c with warnLevel := wL } ops) (run { c with warnLevel := wS } ops) := by
  have := Twin.run_related _ _ WRel (fun a b o h => step_wrel hf c wL wS hle a b o h) ops init init
    ⟨.init, Iff.rfl, id⟩
  exact ⟨this.2.1, this.2.2, this.1⟩

end field

end MV.C17.LFR
