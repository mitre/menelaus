/-
  C02 for the kdq-tree detectors (`Model/KdqDetect.lean`, transcription of
  menelaus/data_drift/kdq_tree.py): after a reported drift the running detector reports on every
  continuation what a newly constructed detector (plus the documented carry-over) reports on it,
  `total_samples` / `total_batches` shifted by the number of items seen before.  The bootstrap index
  draws of `np.random.choice` are per-update inputs of the model; both runs receive the same draws.
  No arithmetic law is used: every theorem holds for every carrier, including the executed `Float`.

  * An update can fail (`none`: `build` out of fuel = Python's `RecursionError`).  Failure is part of
    every statement: `Twin.OptRel R` relates two partial results iff both failed or both succeeded
    with `R`-related values, and an observation sequence (`trace`) ends with `none` at the first
    update that raises.  So "equal traces" also says that the two detectors raise at the same position.
  * KdqTreeStreaming: nothing is carried over.
  * KdqTreeBatch: the drifted batch `B` is carried over: the twin is a newly constructed detector on
    which `set_reference(B)` was called.  The running detector performs that `set_reference` lazily,
    at the start of the first update after the drift and with the draws of that update; the twin's
    `set_reference` therefore gets the draws of the first update of the continuation.
    `set_reference` zeroes `batches_since_reset` on both sides, so it is part of the relation (unlike
    NNDVI); the first `update` of a newly constructed detector — which only installs the reference —
    counts one batch and restarts `batches_since_reset` to 0, so the twin "fed `B` first" is the same
    twin with offset one less (`twin_history_first_update`).

  Histories on which the hypotheses hold (two drifts each) are exhibited in `Props/C02Examples.lean`.
-/
import MenelausVerif.Props.C02
import MenelausVerif.Lemmas.KdqStep
set_option linter.unusedSectionVars false

namespace MV.Twin

/-- "the history reports `b` after each of its first `k + 1` blocks", peeled by one block -/
theorem runO_prefixes_cons {σ ι β : Type} (f : σ → ι → Option σ) (obs : σ → β) (b : β) (s : σ)
    (e : List ι) (es : List (List ι))
    (h : ∀ k, k < (e :: es).length → (runO f s ((e :: es).take (k + 1)).flatten).map obs = some b) :
    ∃ s', runO f s e = some s' ∧ obs s' = b ∧
      ∀ k, k < es.length → (runO f s' (es.take (k + 1)).flatten).map obs = some b := by
  have h0 := h 0 (Nat.zero_lt_succ _)
  rw [List.take_succ_cons, List.take_zero, List.flatten_cons, List.flatten_nil, List.append_nil,
    Option.map_eq_some_iff] at h0
  obtain ⟨s', hs', hb⟩ := h0
  refine ⟨s', hs', hb, fun k hk => ?_⟩
  have := h (k + 1) (Nat.succ_lt_succ hk)
  rwa [List.take_succ_cons, List.flatten_cons, runO_append, hs', Option.bind_some] at this

end MV.Twin

namespace MV.KdqStream
open MV MV.Kdq MV.KdqDet MV.Twin

variable {α : Type} [Inhabited α] [Add α] [Sub α] [Mul α] [Div α] [LT α] [DecidableLT α]
  [LE α] [DecidableLE α] [NatCast α] [BEq α] [HasLogExp α] [HasRint α] [HasTrunc α]

/-- running state `s` equals fresh state `t` in every field, except that `total_samples` is larger
    by `off` -/
def SameUpTo (off : Nat) (s t : SState α) : Prop :=
  s.total = t.total + off ∧ s.since = t.since ∧ s.drift = t.drift ∧ s.refData = t.refData ∧
  s.testSize = t.testSize ∧ s.tree = t.tree ∧ s.critical = t.critical ∧ s.testDist = t.testDist ∧
  s.counter = t.counter

/-- a state of the fresh twin, moved to the running detector's sample numbering -/
def shift (off : Nat) (t : SState α) : SState α := { t with total := t.total + off }

/-- the relation is functional: `s` is `t` with the total moved -/
theorem sameUpTo_iff (off : Nat) (s t : SState α) : SameUpTo off s t ↔ s = shift off t := by
  obtain ⟨t1, t2, t3, t4, t5, t6, t7, t8, t9⟩ := t
  obtain ⟨s1, s2, s3, s4, s5, s6, s7, s8, s9⟩ := s
  simp [SameUpTo, shift]

theorem sameUpTo_shift (off : Nat) (t : SState α) : SameUpTo off (shift off t) t :=
  (sameUpTo_iff off _ t).mpr rfl

/-- the relation in the order in which the property lists the public attributes -/
theorem sameUpTo_obs (off : Nat) (s t : SState α) (h : SameUpTo off s t) :
    s.drift = t.drift ∧ s.since = t.since ∧ s.testDist = t.testDist ∧ s.critical = t.critical ∧
    s.tree = t.tree ∧ s.counter = t.counter ∧ s.total = t.total + off :=
  ⟨h.2.2.1, h.2.1, h.2.2.2.2.2.2.2.1, h.2.2.2.2.2.2.1, h.2.2.2.2.2.1, h.2.2.2.2.2.2.2.2, h.1⟩

theorem sPre_shift (off : Nat) (t : SState α) : sPre (shift off t) = shift off (sPre t) :=
  (apply_ite (shift off) (t.drift = .drift) (sReset t) t).symm

theorem sStep_shift (c : SCfg α) (off : Nat) (t : SState α) (x : List α) (d : List (List Nat)) :
    sStep c (shift off t) x d = (sStep c t x d).map (fun r => (shift off r.1, r.2)) := by
  have e : sTick (sPre (shift off t)) = shift off (sTick (sPre t)) := by
    rw [sPre_shift]
    exact congrArg (fun n => { sTick (sPre t) with total := n }) (Nat.add_right_comm ..)
  exact (congrArg (sEvaluate c · x d) e).trans (sEvaluate_total_frame c _ x d (· + off))

/-- one streaming update: the validated row and the bootstrap draws the update would consume -/
abbrev Inp (α : Type) := List α × List (List Nat)

/-- what one update leaves behind: the complete detector state and what the update did
    (`none`: the update raised — `build` out of fuel, Python's `RecursionError`) -/
abbrev Obs (α : Type) := Option (SState α × Ev)

def shiftObs (off : Nat) : Obs α → Obs α := Option.map (fun r => (shift off r.1, r.2))

def stepO (c : SCfg α) (s? : Option (SState α)) (i : Inp α) : Option (SState α) :=
  s?.bind (fun s => (sStep c s i.1 i.2).map (·.1))

/-- the state after a history (`none` as soon as one update raised) -/
def run (c : SCfg α) (s : SState α) (ys : List (Inp α)) : Option (SState α) := ys.foldl (stepO c) (some s)

/-- the observation sequence of a history: one entry per update, ending with `none` at the first
    update that raises (nothing is observed after it) -/
def trace (c : SCfg α) : SState α → List (Inp α) → List (Obs α)
  | _, [] => []
  | s, i :: rest =>
    match sStep c s i.1 i.2 with
    | none => [none]
    | some r => some r :: trace c r.1 rest

@[simp] theorem run_nil (c : SCfg α) (s : SState α) : run c s [] = some s := rfl

theorem run_cons (c : SCfg α) (s : SState α) (i : Inp α) (ys : List (Inp α)) :
    run c s (i :: ys) = (sStep c s i.1 i.2).bind (fun r => run c r.1 ys) :=
  (runO_cons (fun (s : SState α) (i : Inp α) => (sStep c s i.1 i.2).map Prod.fst) s i ys).trans Option.bind_map

theorem run_append (c : SCfg α) (s : SState α) (xs ys : List (Inp α)) :
    run c s (xs ++ ys) = (run c s xs).bind (fun s' => run c s' ys) :=
  runO_append (fun (s : SState α) (i : Inp α) => (sStep c s i.1 i.2).map Prod.fst) s xs ys

/-- `run` is `sRun` (`Lemmas/KdqStep.lean`) with the event list dropped: what `Props/C09.lean` proves of
    histories (`stream_drift_iff`) holds of the running detector and of its twin alike -/
theorem run_eq_sRun (c : SCfg α) (s : SState α) (ys : List (Inp α)) :
    run c s ys = (sRun c s ys).map (·.1) := by
  induction ys generalizing s with
  | nil => rfl
  | cons y ys ih =>
    obtain ⟨x, d⟩ := y
    rw [run_cons, sRun_cons]
    cases sStep c s x d with
    | none => rfl
    | some r =>
      rw [Option.bind_some, Option.bind_some, Option.map_map]
      exact ih r.1

theorem trace_append (c : SCfg α) (s : SState α) (xs ys : List (Inp α)) :
    trace c s (xs ++ ys) =
      trace c s xs ++ (match run c s xs with | none => [] | some s' => trace c s' ys) := by
  induction xs generalizing s with
  | nil => simp [trace]
  | cons x xs ih =>
    simp only [List.cons_append, trace, run_cons]
    cases sStep c s x.1 x.2 with
    | none => simp
    | some r => simp [ih]

theorem run_total (c : SCfg α) (s s' : SState α) (ys : List (Inp α)) (h : run c s ys = some s') :
    s'.total = s.total + ys.length := by
  induction ys generalizing s with
  | nil => cases h; rfl
  | cons y ys ih =>
    rw [run_cons] at h
    obtain ⟨⟨s1, ev⟩, hs, h⟩ := Option.bind_eq_some_iff.1 h
    rw [ih s1 h, sStep_total hs, List.length_cons, Nat.add_assoc, Nat.add_comm 1]

/-- for every later update `s` is a freshly constructed detector that has already counted `off`
    samples: it *is* one, or it holds a pending drift (which the next update clears first) -/
def FreshAt (off : Nat) (s : SState α) : Prop := sPre s = shift off sInit

theorem freshAt_of_drift (s : SState α) (h : s.drift = .drift) : FreshAt s.total s := by
  rw [FreshAt, sPre_of_drift h]
  simp [sReset, shift, sInit]

theorem step_sameUpTo (c : SCfg α) (off : Nat) (s t : SState α) (x : List α) (d : List (List Nat))
    (h : SameUpTo off s t) :
    OptRel (fun r r' => SameUpTo off r.1 r'.1 ∧ r.2 = r'.2) (sStep c s x d) (sStep c t x d) := by
  rw [(sameUpTo_iff off s t).mp h, sStep_shift]
  exact OptRel.map_left (fun r => ⟨sameUpTo_shift off r.1, rfl⟩) _

/-- nothing is carried over -/
theorem first_after_drift (c : SCfg α) (s : SState α) (x : List α) (d : List (List Nat))
    (h : s.drift = .drift) :
    OptRel (fun r r' => SameUpTo s.total r.1 r'.1 ∧ r.2 = r'.2) (sStep c s x d) (sStep c sInit x d) := by
  rw [← sStep_pre c s, freshAt_of_drift s h, sStep_shift]
  exact OptRel.map_left (fun r => ⟨sameUpTo_shift _ r.1, rfl⟩) _

theorem trace_shift (c : SCfg α) (off : Nat) (t : SState α) (ys : List (Inp α)) :
    trace c (shift off t) ys = (trace c t ys).map (shiftObs off) := by
  induction ys generalizing t with
  | nil => rfl
  | cons y ys ih =>
    simp only [trace, sStep_shift]
    cases sStep c t y.1 y.2 with
    | none => simp [shiftObs]
    | some r => simp [shiftObs, ih]

theorem run_shift (c : SCfg α) (off : Nat) (t : SState α) (ys : List (Inp α)) :
    run c (shift off t) ys = (run c t ys).map (shift off) := by
  induction ys generalizing t with
  | nil => rfl
  | cons y ys ih =>
    rw [run_cons, run_cons, sStep_shift]
    cases sStep c t y.1 y.2 with
    | none => rfl
    | some r => exact ih r.1

theorem freshAt_trace (c : SCfg α) (off : Nat) (s : SState α) (h : FreshAt off s) (ys : List (Inp α)) :
    trace c s ys = (trace c sInit ys).map (shiftObs off) := by
  have e : trace c (sPre s) ys = trace c s ys := by
    cases ys with
    | nil => rfl
    | cons y ys => simp only [trace, sStep_pre]
  rw [← e, h, trace_shift]

theorem freshAt_run (c : SCfg α) (off : Nat) (s : SState α) (h : FreshAt off s) (y : Inp α) (ys : List (Inp α)) :
    run c s (y :: ys) = (run c sInit (y :: ys)).map (shift off) := by
  rw [← run_shift, ← h, run_cons, run_cons, sStep_pre]

/-- **KdqTreeStreaming twin theorem** (state form).  `s`: any state in which a drift has just been
    reported.  For every non-empty continuation (samples and bootstrap draws) the running detector
    and a freshly constructed one fed only the continuation either both raise at the same update, or
    end in states that agree on every field — drift state, `samples_since_reset`, reference buffer,
    test-window size, tree (structure and all counts), critical value, divergence, persistence
    counter — except `total_samples`, which is larger by the number of samples seen before.
    Nothing is carried over: the next `window_size` samples form the new reference. -/
theorem twin (c : SCfg α) (s : SState α) (h : s.drift = .drift) (y : Inp α) (ys : List (Inp α)) :
    OptRel (SameUpTo s.total) (run c s (y :: ys)) (run c sInit (y :: ys)) := by
  rw [freshAt_run c _ s (freshAt_of_drift s h)]
  exact OptRel.map_left (sameUpTo_shift _) _

/-- … and observation by observation: the sequence of (state, event) pairs the running detector
    produces on the continuation is the fresh detector's, totals shifted; if an update raises, it
    raises at the same position on both sides and both sequences end there -/
theorem twin_trace (c : SCfg α) (s : SState α) (h : s.drift = .drift) (ys : List (Inp α)) :
    trace c s ys = (trace c sInit ys).map (shiftObs s.total) :=
  freshAt_trace c _ s (freshAt_of_drift s h) ys

/-- **KdqTreeStreaming twin theorem** (history form): every history `xs` of a fresh detector that
    ends in a reported drift, every continuation `ys`: the observations on `ys` are those of a fresh
    detector on `ys`, totals shifted by the length of the history; final states as in `twin`. -/
theorem twin_history (c : SCfg α) (xs : List (Inp α)) (s : SState α) (hx : run c sInit xs = some s)
    (h : s.drift = .drift) (ys : List (Inp α)) :
    trace c sInit (xs ++ ys) = trace c sInit xs ++ (trace c sInit ys).map (shiftObs xs.length) ∧
    (ys ≠ [] → OptRel (SameUpTo xs.length) (run c sInit (xs ++ ys)) (run c sInit ys)) := by
  have ht : s.total = xs.length := (run_total c sInit s xs hx).trans (Nat.zero_add _)
  constructor
  · rw [trace_append, hx, ← ht]
    simp only [twin_trace c s h ys]
  · intro hne
    obtain ⟨y, ys', rfl⟩ := List.exists_cons_of_ne_nil hne
    rw [run_append, hx, ← ht]
    exact twin c s h y ys'

/-- started in `s`, the history `es.flatten` reports a drift at the end of every block of `es` -/
def DriftsAt (c : SCfg α) : SState α → List (List (Inp α)) → Prop
  | _, [] => True
  | s, e :: es => e ≠ [] ∧ ∃ s', run c s e = some s' ∧ s'.drift = .drift ∧ DriftsAt c s' es

/-- the observation sequences of *fresh* detectors, one per block, the `k`-th moved by the number of
    samples before it -/
def freshTraces (c : SCfg α) (off : Nat) : List (List (Inp α)) → List (Obs α)
  | [] => []
  | e :: es => (trace c sInit e).map (shiftObs off) ++ freshTraces c (off + e.length) es

/-- `DriftsAt` spelled out on prefixes: the running detector reports a drift after
    `e₁`, after `e₁ ++ e₂`, … -/
theorem driftsAt_of_prefixes (c : SCfg α) (es : List (List (Inp α))) (s : SState α)
    (hne : ∀ e ∈ es, e ≠ [])
    (h : ∀ k, k < es.length → (run c s (es.take (k + 1)).flatten).map (·.drift) = some .drift) :
    DriftsAt c s es := by
  induction es generalizing s with
  | nil => trivial
  | cons e es ih =>
    obtain ⟨s', hs', hd, hk⟩ := runO_prefixes_cons
      (fun (s : SState α) (i : Inp α) => (sStep c s i.1 i.2).map Prod.fst) (·.drift) .drift s e es h
    exact ⟨hne e List.mem_cons_self, s', hs', hd, ih s' (fun e' he' => hne e' (List.mem_cons_of_mem _ he')) hk⟩

theorem twin_epochs_gen (c : SCfg α) (es : List (List (Inp α))) (s : SState α)
    (hf : FreshAt s.total s) (h : DriftsAt c s es) :
    (∀ e ∈ es, ∃ t, run c sInit e = some t ∧ t.drift = .drift) ∧
    ∃ s', run c s es.flatten = some s' ∧ FreshAt s'.total s' ∧
      ∀ ys, trace c s (es.flatten ++ ys) =
        freshTraces c s.total es ++ (trace c sInit ys).map (shiftObs s'.total) := by
  induction es generalizing s with
  | nil => exact ⟨nofun, s, rfl, hf, fun ys => freshAt_trace c _ s hf ys⟩
  | cons e es ih =>
    obtain ⟨hne, s1, hr, hd, hrest⟩ := h
    obtain ⟨y, ys', rfl⟩ := List.exists_cons_of_ne_nil hne
    have hr' := freshAt_run c _ s hf y ys'
    rw [hr] at hr'
    obtain ⟨t, ht, rfl⟩ := Option.map_eq_some_iff.1 hr'.symm
    obtain ⟨i1, s2, i2, i3, i4⟩ := ih _ (freshAt_of_drift _ hd) hrest
    refine ⟨?_, s2, ?_, i3, fun ys => ?_⟩
    · intro e' he'
      rcases List.mem_cons.mp he' with rfl | he'
      · exact ⟨t, ht, hd⟩
      · exact i1 e' he'
    · rw [List.flatten_cons, run_append, hr]; exact i2
    · rw [List.flatten_cons, List.append_assoc, trace_append, hr]
      dsimp only
      rw [i4 ys, freshAt_trace c _ s hf, freshTraces, run_total c s _ _ hr, List.append_assoc]

/-- **Second, third, … drift** (any number of epochs).  Let a history of a fresh detector be cut
    into non-empty blocks `e₁ … eₙ` at (any `n` of) its reported drifts.  Then
    * a fresh detector fed only block `eₖ` reports a drift at its end, for every `k`;
    * the observations of the running detector on `e₁ ++ … ++ eₙ ++ ys`, for every continuation
      `ys`, are the observations of `n + 1` fresh detectors fed `e₁`, …, `eₙ`, `ys` one after the
      other, the totals of each moved by the number of samples before its block. -/
theorem twin_epochs (c : SCfg α) (es : List (List (Inp α))) (h : DriftsAt c sInit es) (ys : List (Inp α)) :
    (∀ e ∈ es, ∃ t, run c sInit e = some t ∧ t.drift = .drift) ∧
    trace c sInit (es.flatten ++ ys) =
      freshTraces c 0 es ++ (trace c sInit ys).map (shiftObs es.flatten.length) := by
  obtain ⟨h1, s', hs', _, h2⟩ := twin_epochs_gen c es sInit rfl h
  have := h2 ys
  rw [run_total c sInit s' _ hs'] at this
  exact ⟨h1, by simpa [sInit] using this⟩

end MV.KdqStream

namespace MV.KdqBatch
open MV MV.Kdq MV.KdqDet MV.Twin

variable {α : Type} [Inhabited α] [Add α] [Sub α] [Mul α] [Div α] [LT α] [DecidableLT α]
  [LE α] [DecidableLE α] [NatCast α] [BEq α] [HasLogExp α] [HasRint α] [HasTrunc α]

/-- running state `s` equals twin state `t`: drift state, `batches_since_reset`, tree, critical
    value, divergence equal; `total_batches` larger by `off`; `ref_data` equal whenever a drift is
    pending (it is read only then; the twin has no such attribute before its first drift) -/
def SameUpTo (off : Nat) (s t : BState α) : Prop :=
  s.total = t.total + off ∧ s.since = t.since ∧ s.drift = t.drift ∧ s.tree = t.tree ∧
  s.critical = t.critical ∧ s.testDist = t.testDist ∧ (t.drift = .drift → s.refData = t.refData)

/-- what is observable of a state: everything, `ref_data` only while a drift is pending -/
def view (s : BState α) : BState α :=
  { s with refData := if s.drift = .drift then s.refData else none }

/-- a state of the fresh twin, moved to the running detector's batch numbering -/
def shift (off : Nat) (t : BState α) : BState α := { t with total := t.total + off }

/-- the relation in the order in which the property lists the public attributes -/
theorem sameUpTo_obs (off : Nat) (s t : BState α) (h : SameUpTo off s t) :
    s.drift = t.drift ∧ s.since = t.since ∧ s.testDist = t.testDist ∧ s.critical = t.critical ∧
    s.tree = t.tree ∧ s.total = t.total + off ∧ (s.drift = .drift → s.refData = t.refData) :=
  ⟨h.2.2.1, h.2.1, h.2.2.2.2.2.1, h.2.2.2.2.1, h.2.2.2.1, h.1, fun hd => h.2.2.2.2.2.2 (h.2.2.1 ▸ hd)⟩

/-- the relation says: the observable parts coincide up to the total offset -/
theorem sameUpTo_iff (off : Nat) (s t : BState α) : SameUpTo off s t ↔ view s = shift off (view t) := by
  obtain ⟨t1, t2, t3, t4, t5, t6, t7⟩ := t
  obtain ⟨s1, s2, s3, s4, s5, s6, s7⟩ := s
  simp only [SameUpTo, view, shift, BState.mk.injEq]
  constructor
  · rintro ⟨h1, h2, h3, h4, h5, h6, h7⟩
    subst h3
    refine ⟨h1, h2, rfl, h4, h5, h6, ?_⟩
    by_cases hd : s3 = .drift <;> simp [hd, h7]
  · rintro ⟨h1, h2, h3, h4, h5, h6, h7⟩
    subst h3
    refine ⟨h1, h2, rfl, h4, h5, h6, fun hd => ?_⟩
    simpa [hd] using h7

/-- the twin's start: a newly constructed detector on which `set_reference(B)` is called, the
    bootstrap of that call drawing `d` (`none` if building the tree of `B` raises) -/
def fresh (c : BCfg α) (m : Nat) (B : List (List α)) (d : List (List Nat)) : Option (BState α) :=
  bSetRef c bInit m B d

theorem setRef_sameUpTo (c : BCfg α) (m off : Nat) (s t : BState α) (R : List (List α)) (d : List (List Nat))
    (h : s.total = t.total + off) :
    OptRel (SameUpTo off) (bSetRef c s m R d) (bSetRef c t m R d) := by
  rw [bSetRef_eq, bSetRef_eq]
  cases build c.part m R with
  | none => trivial
  | some tr => exact ⟨h, rfl, rfl, rfl, rfl, rfl, nofun⟩

theorem core_sameUpTo (c : BCfg α) (m off : Nat) (s t : BState α) (X : List (List α)) (d : List (List Nat))
    (h : SameUpTo off s t) :
    OptRel (fun r r' => SameUpTo off r.1 r'.1 ∧ r.2 = r'.2) (bCore c m s X d) (bCore c m t X d) := by
  obtain ⟨h1, h2, h3, h4, h5, h6, h7⟩ := h
  have h1' : (bTick s).total = (bTick t).total + off := by
    show s.total + 1 = t.total + 1 + off
    rw [h1, Nat.add_right_comm]
  cases ht : t.tree with
  | none =>
    rw [bCore_install c m X d (h4.trans ht), bCore_install c m X d ht]
    exact (setRef_sameUpTo c m off _ _ X d h1').map fun _ _ _ _ hR => ⟨hR, rfl⟩
  | some tr =>
    rw [bCore_test c m X d (h4.trans ht), bCore_test c m X d ht, h5]
    refine ⟨⟨h1', congrArg (· + 1) h2, by rw [h3], rfl, h5, rfl, fun hd => ?_⟩, rfl⟩
    show (if _ then some X else s.refData) = (if _ then some X else t.refData)
    split
    · rfl
    · rename_i hx
      exact h7 (by rwa [if_neg hx] at hd)

theorem step_sameUpTo (c : BCfg α) (m off : Nat) (s t : BState α) (X : List (List α)) (d : List (List Nat))
    (h : SameUpTo off s t) :
    OptRel (fun r r' => SameUpTo off r.1 r'.1 ∧ r.2 = r'.2) (bStep c s m X d) (bStep c t m X d) := by
  rw [bStep_eq, bStep_eq]
  have hp : OptRel (SameUpTo off) (bPre c m s d) (bPre c m t d) := by
    have ⟨h1, _, h3, _, _, _, h7⟩ := h
    by_cases hd : t.drift = .drift
    · rw [bPre_drift c m d (h3.trans hd), bPre_drift c m d hd, h7 hd]
      exact setRef_sameUpTo c m off s t _ d h1
    · rw [bPre_quiet c m d (h3 ▸ hd), bPre_quiet c m d hd]
      exact h
  exact hp.bind fun s' t' _ _ h' => core_sameUpTo c m off s' t' X d h'

/-- **the update that follows a drift**: the drifted batch `B` becomes the reference — the running
    detector behaves like a newly constructed detector on which `set_reference(B)` was called (the
    bootstrap of that call drawing what the running detector's update draws) and which then
    receives the same batch.  If building the tree of `B` raises, it raises on both sides (in the
    twin's `set_reference`, in the running detector's update). -/
theorem first_after_drift (c : BCfg α) (m : Nat) (s : BState α) (B X : List (List α)) (d : List (List Nat))
    (h : s.drift = .drift) (hr : s.refData = some B) :
    OptRel (fun r r' => SameUpTo s.total r.1 r'.1 ∧ r.2 = r'.2) (bStep c s m X d)
      ((fresh c m B d).bind (fun t0 => bStep c t0 m X d)) := by
  rw [bStep_adopt c s m X d h, hr]
  exact (setRef_sameUpTo c m s.total s bInit B d (Nat.zero_add _).symm).bind fun s1 t0 _ _ h1 =>
    step_sameUpTo c m _ s1 t0 X d h1

/-- one batch update: the validated batch and the bootstrap draws the update would consume (they
    are consumed only by an update that builds a reference: the first one, and the one after a drift) -/
abbrev Op (α : Type) := List (List α) × List (List Nat)

/-- the draws of an `Op` are read only where a reference is built: with a reference in place and no
    drift pending the update is the same whatever they are -/
theorem bStep_draws_unused (c : BCfg α) (m : Nat) (s : BState α) (X : List (List α)) (d d' : List (List Nat))
    (hd : s.drift ≠ .drift) (ht : s.tree.isSome = true) : bStep c s m X d = bStep c s m X d' := by
  obtain ⟨tr, htr⟩ := Option.isSome_iff_exists.mp ht
  rw [bStep_test c s m X d tr hd htr, bStep_test c s m X d' tr hd htr]

/-- what one update leaves behind: the detector state (`ref_data` shown only while a drift is
    pending, see `view`) and the decision; `none`: the update raised -/
abbrev Obs (α : Type) := Option (BState α × Option Bool)

def shiftObs (off : Nat) : Obs α → Obs α := Option.map (fun r => (shift off r.1, r.2))

def stepO (c : BCfg α) (m : Nat) (s? : Option (BState α)) (op : Op α) : Option (BState α) :=
  s?.bind (fun s => (bStep c s m op.1 op.2).map (·.1))

def run (c : BCfg α) (m : Nat) (s : BState α) (ops : List (Op α)) : Option (BState α) :=
  ops.foldl (stepO c m) (some s)

def trace (c : BCfg α) (m : Nat) : BState α → List (Op α) → List (Obs α)
  | _, [] => []
  | s, op :: rest =>
    match bStep c s m op.1 op.2 with
    | none => [none]
    | some r => some (view r.1, r.2) :: trace c m r.1 rest

@[simp] theorem run_nil (c : BCfg α) (m : Nat) (s : BState α) : run c m s [] = some s := rfl

theorem run_cons (c : BCfg α) (m : Nat) (s : BState α) (op : Op α) (ops : List (Op α)) :
    run c m s (op :: ops) = (bStep c s m op.1 op.2).bind (fun r => run c m r.1 ops) :=
  (runO_cons (fun (s : BState α) (op : Op α) => (bStep c s m op.1 op.2).map Prod.fst) s op ops).trans Option.bind_map

theorem run_append (c : BCfg α) (m : Nat) (s : BState α) (xs ys : List (Op α)) :
    run c m s (xs ++ ys) = (run c m s xs).bind (fun s' => run c m s' ys) :=
  runO_append (fun (s : BState α) (op : Op α) => (bStep c s m op.1 op.2).map Prod.fst) s xs ys

theorem trace_append (c : BCfg α) (m : Nat) (s : BState α) (xs ys : List (Op α)) :
    trace c m s (xs ++ ys) =
      trace c m s xs ++ (match run c m s xs with | none => [] | some s' => trace c m s' ys) := by
  induction xs generalizing s with
  | nil => simp [trace]
  | cons x xs ih =>
    simp only [List.cons_append, trace, run_cons]
    cases bStep c s m x.1 x.2 with
    | none => simp
    | some r => simp [ih]

theorem run_total (c : BCfg α) (m : Nat) (s s' : BState α) (ops : List (Op α)) (h : run c m s ops = some s') :
    s'.total = s.total + ops.length := by
  induction ops generalizing s with
  | nil => cases h; rfl
  | cons y ys ih =>
    rw [run_cons] at h
    obtain ⟨⟨s1, f⟩, hs, h⟩ := Option.bind_eq_some_iff.1 h
    rw [ih s1 h, (bStep_fields hs).1, List.length_cons, Nat.add_assoc, Nat.add_comm 1]

/-- the batch of the last update of `e`, the reference a drift at the end of `e` leaves
    (`B` for `e = []`: the callers have `e ≠ []`, and pass `[]` where no batch is at hand) -/
def lastBatch (B : List (List α)) (e : List (Op α)) : List (List α) :=
  match e.getLast? with
  | some op => op.1
  | none => B

theorem lastBatch_snoc (B : List (List α)) (l : List (Op α)) (op : Op α) :
    lastBatch B (l ++ [op]) = op.1 := by
  rw [lastBatch, List.getLast?_append, List.getLast?_singleton]; rfl

/-- **a reported drift makes the batch just seen the next reference**, whatever the history -/
theorem drift_reference (c : BCfg α) (m : Nat) (s s' : BState α) (ops : List (Op α)) (hne : ops ≠ [])
    (B : List (List α)) (h : run c m s ops = some s') (hd : s'.drift = .drift) :
    s'.refData = some (lastBatch B ops) := by
  rcases List.eq_nil_or_concat ops with rfl | ⟨l, op, rfl⟩
  · exact absurd rfl hne
  · rw [List.concat_eq_append] at h ⊢
    rw [run_append] at h
    obtain ⟨s1, -, h⟩ := Option.bind_eq_some_iff.1 h
    rw [run_cons] at h
    obtain ⟨⟨s2, f⟩, h2, h⟩ := Option.bind_eq_some_iff.1 h
    cases h
    rw [lastBatch_snoc]
    exact (bStep_fields h2).2.2.2.2 hd

theorem run_sameUpTo (c : BCfg α) (m off : Nat) (s t : BState α) (ops : List (Op α)) (h : SameUpTo off s t) :
    OptRel (SameUpTo off) (run c m s ops) (run c m t ops) :=
  run_related (stepO c m) (stepO c m) (OptRel (SameUpTo off))
    (fun _ _ op h => h.bind fun s t _ _ hst =>
      (step_sameUpTo c m off s t op.1 op.2 hst).map fun _ _ _ _ hr => hr.1) ops (some s) (some t) h

/-- if the first update relates the two detectors, the observation sequences correspond -/
theorem trace_cons_sameUpTo (c : BCfg α) (m off : Nat) (s t : BState α) (op : Op α) (ops : List (Op α))
    (h : OptRel (fun r r' => SameUpTo off r.1 r'.1 ∧ r.2 = r'.2) (bStep c s m op.1 op.2) (bStep c t m op.1 op.2))
    (ih : ∀ s t, SameUpTo off s t → trace c m s ops = (trace c m t ops).map (shiftObs off)) :
    trace c m s (op :: ops) = (trace c m t (op :: ops)).map (shiftObs off) := by
  simp only [trace]
  obtain ⟨hs, ht⟩ | ⟨r, r', hs, ht, hR, he⟩ := h.cases <;> rw [hs, ht]
  · rfl
  · show some (view r.1, r.2) :: _ = some (shift off (view r'.1), r'.2) :: _
    rw [ih _ _ hR, (sameUpTo_iff off _ _).mp hR, he]

theorem trace_sameUpTo (c : BCfg α) (m off : Nat) (s t : BState α) (ops : List (Op α)) (h : SameUpTo off s t) :
    trace c m s ops = (trace c m t ops).map (shiftObs off) := by
  induction ops generalizing s t with
  | nil => rfl
  | cons op ops ih => exact trace_cons_sameUpTo c m off s t op ops (step_sameUpTo c m off s t op.1 op.2 h) ih

/-- the run of the fresh twin on a non-empty continuation: a newly constructed detector,
    `set_reference(B)` — its bootstrap drawing what the first update of the continuation carries —
    then the continuation -/
def twinRun (c : BCfg α) (m : Nat) (B : List (List α)) (op : Op α) (ops : List (Op α)) : Option (BState α) :=
  (fresh c m B op.2).bind (fun t0 => run c m t0 (op :: ops))

/-- … and its observation sequence (just `[none]` when its `set_reference(B)` raises) -/
def twinTrace (c : BCfg α) (m : Nat) (B : List (List α)) : List (Op α) → List (Obs α)
  | [] => []
  | op :: ops =>
    match fresh c m B op.2 with
    | none => [none]
    | some t0 => trace c m t0 (op :: ops)

/-- **KdqTreeBatch twin theorem** (state form).  `s`: any state in which a drift has just been
    reported on batch `B` (so `ref_data = B`, `drift_reference`).  For every non-empty continuation
    the running detector and a newly constructed detector with `set_reference(B)`, fed only the
    continuation with the same draws, either both raise at the same update or end in states that
    agree on drift state, `batches_since_reset`, tree (structure, reference counts, test counts),
    critical value, divergence, and on `ref_data` whenever a drift is pending; `total_batches` is
    larger by the number of batches seen before. -/
theorem twin (c : BCfg α) (m : Nat) (s : BState α) (B : List (List α)) (h : s.drift = .drift)
    (hr : s.refData = some B) (op : Op α) (ops : List (Op α)) :
    OptRel (SameUpTo s.total) (run c m s (op :: ops)) (twinRun c m B op ops) ∧
    trace c m s (op :: ops) = (twinTrace c m B (op :: ops)).map (shiftObs s.total) := by
  have hf := first_after_drift c m s B op.1 op.2 h hr
  simp only [twinRun, twinTrace]
  cases ht0 : fresh c m B op.2 with
  | none =>
    -- the twin's `set_reference` raises: so does the running detector's update
    rw [ht0] at hf
    obtain ⟨hs, -⟩ | ⟨_, _, _, h2, _⟩ := hf.cases
    · rw [run_cons, trace, hs]; exact ⟨trivial, rfl⟩
    · cases h2
  | some t0 =>
    rw [ht0, Option.bind_some] at hf
    refine ⟨?_, trace_cons_sameUpTo c m _ s t0 op ops hf fun s t => trace_sameUpTo c m _ s t ops⟩
    rw [Option.bind_some, run_cons, run_cons]
    exact hf.bind fun r r' _ _ hR => run_sameUpTo c m _ _ _ ops hR.1

theorem twin_trace (c : BCfg α) (m : Nat) (s : BState α) (B : List (List α)) (h : s.drift = .drift)
    (hr : s.refData = some B) (ys : List (Op α)) :
    trace c m s ys = (twinTrace c m B ys).map (shiftObs s.total) := by
  cases ys with
  | nil => rfl
  | cons op ops => exact (twin c m s B h hr op ops).2

/-- **KdqTreeBatch twin theorem** (history form): every start state `s0` (a fresh detector, or one
    with a user-supplied reference), every history `ops` followed by an update on `B` that reports a
    drift, every non-empty continuation: observations and final state are those of a newly
    constructed detector with `set_reference(B)`, totals shifted by the number of batches before. -/
theorem twin_history (c : BCfg α) (m : Nat) (s0 s : BState α) (ops : List (Op α)) (B : List (List α))
    (dB : List (List Nat)) (hx : run c m s0 (ops ++ [(B, dB)]) = some s) (h : s.drift = .drift)
    (op : Op α) (ops' : List (Op α)) :
    trace c m s0 (ops ++ [(B, dB)] ++ op :: ops') =
      trace c m s0 (ops ++ [(B, dB)]) ++
        (twinTrace c m B (op :: ops')).map (shiftObs (s0.total + ops.length + 1)) ∧
    OptRel (SameUpTo (s0.total + ops.length + 1)) (run c m s0 (ops ++ [(B, dB)] ++ op :: ops'))
      (twinRun c m B op ops') := by
  have hr : s.refData = some B :=
    (drift_reference c m s0 s _ (List.append_ne_nil_of_right_ne_nil _ (List.cons_ne_nil _ _)) [] hx h).trans
      (congrArg some (lastBatch_snoc [] ops (B, dB)))
  have ht : s.total = s0.total + ops.length + 1 := by
    rw [run_total c m s0 s _ hx, List.length_append, List.length_singleton, Nat.add_assoc]
  obtain ⟨t1, t2⟩ := twin c m s B h hr op ops'
  rw [ht] at t1 t2
  exact ⟨by rw [trace_append, hx]; simp only [t2], by rw [run_append, hx]; exact t1⟩

/-- the first update of a newly constructed detector is `set_reference` of its batch, counted as
    one batch (`batches_since_reset` is restarted to 0 by it) -/
theorem first_update_twin (c : BCfg α) (m : Nat) (B : List (List α)) (d : List (List Nat)) :
    bStep c (bInit : BState α) m B d = (fresh c m B d).map (fun t0 => (shift 1 t0, none)) := by
  rw [bStep_install c bInit m B d nofun rfl, fresh, bSetRef_eq, bSetRef_eq]
  cases build c.part m B <;> rfl

/-- offsets subtract: `r` ahead of `t` by `a + b` and `u` ahead of `t` by `b` leave `r` ahead of `u` by `a` -/
theorem sameUpTo_cancel (a b : Nat) {r t u : Option (BState α)} (h1 : OptRel (SameUpTo (a + b)) r t)
    (h2 : OptRel (SameUpTo b) u t) : OptRel (SameUpTo a) r u := by
  obtain ⟨rfl, rfl⟩ | ⟨x, y, rfl, rfl, h1⟩ := h1.cases
  · obtain ⟨rfl, -⟩ | ⟨_, _, _, hy, _⟩ := h2.cases
    · trivial
    · cases hy
  · obtain ⟨-, hy⟩ | ⟨z, _, rfl, hy, h2⟩ := h2.cases
    · cases hy
    · cases hy
      obtain ⟨a1, a2, a3, a4, a5, a6, a7⟩ := h1
      obtain ⟨b1, b2, b3, b4, b5, b6, b7⟩ := h2
      refine ⟨by rw [a1, b1, Nat.add_assoc, Nat.add_comm b a], a2.trans b2.symm, a3.trans b3.symm,
        a4.trans b4.symm, a5.trans b5.symm, a6.trans b6.symm, fun hd => ?_⟩
      rw [a7 (b3 ▸ hd), b7 (b3 ▸ hd)]

/-- **history form with the twin fed the drifted batch as its first batch**: after `xs ++ [B]`
    ending in a drift, the running detector on `xs ++ [B] ++ ys` ends as a newly constructed detector
    fed only `[B] ++ ys` (`B` with the draws of the first update of `ys`), `total_batches` larger by
    `|xs|` — "only the data that arrived after the drift, plus the carried-over drifted batch". -/
theorem twin_history_first_update (c : BCfg α) (m : Nat) (s : BState α) (ops : List (Op α))
    (B : List (List α)) (dB : List (List Nat)) (hx : run c m bInit (ops ++ [(B, dB)]) = some s)
    (h : s.drift = .drift) (op : Op α) (ops' : List (Op α)) :
    OptRel (SameUpTo ops.length) (run c m bInit (ops ++ [(B, dB)] ++ op :: ops'))
      (run c m bInit ((B, op.2) :: op :: ops')) := by
  have h1 := (twin_history c m bInit s ops B dB hx h op ops').2
  rw [run_cons c m bInit (B, op.2), first_update_twin]
  rw [twinRun] at h1
  cases hf : fresh c m B op.2 with
  | none => rw [hf] at h1; exact h1.imp fun _ _ _ ht => nomatch ht
  | some t0 =>
    rw [hf] at h1
    exact sameUpTo_cancel _ 1 (by simpa [bInit] using h1)
      (run_sameUpTo c m 1 (shift 1 t0) t0 (op :: ops') ⟨rfl, rfl, rfl, rfl, rfl, rfl, fun _ => rfl⟩)

/-- **`set_reference` twin theorem.**  In any state `s` whatsoever (fresh, mid-epoch, drift pending)
    `set_reference(R)` either raises exactly when it raises on a newly constructed detector, or
    leaves a state that equals the newly constructed detector's after `set_reference(R)` with the
    same draws in drift state (`None`), `batches_since_reset` (0), tree, critical value and
    divergence (cleared).  The model keeps exactly two things: `total_batches`, and the stale
    `ref_data` attribute, which is never read before the next drift overwrites it (this is the last
    clause of `SameUpTo`).  Consequently every continuation is observed identically, totals shifted,
    and ends in related states. -/
theorem setReference_twin (c : BCfg α) (m : Nat) (s : BState α) (R : List (List α)) (d : List (List Nat)) :
    OptRel (SameUpTo s.total) (bSetRef c s m R d) (fresh c m R d) ∧
    ∀ s1 t1, bSetRef c s m R d = some s1 → fresh c m R d = some t1 →
      s1.total = s.total ∧ s1.refData = s.refData ∧
      ∀ ops, trace c m s1 ops = (trace c m t1 ops).map (shiftObs s.total) ∧
        OptRel (SameUpTo s.total) (run c m s1 ops) (run c m t1 ops) := by
  have h0 := setRef_sameUpTo c m s.total s bInit R d (Nat.zero_add _).symm
  refine ⟨h0, fun s1 t1 hs ht => ?_⟩
  obtain ⟨k1, k2, -⟩ := bSetRef_fields hs
  unfold fresh at ht
  rw [hs, ht] at h0
  exact ⟨k1, k2, fun ops => ⟨trace_sameUpTo c m _ _ _ ops h0, run_sameUpTo c m _ _ _ ops h0⟩⟩

theorem setReference_twin_history (c : BCfg α) (m : Nat) (ops : List (Op α)) (s : BState α)
    (hx : run c m bInit ops = some s) (R : List (List α)) (d : List (List Nat)) :
    OptRel (SameUpTo ops.length) (bSetRef c s m R d) (fresh c m R d) ∧
    ∀ s1 t1, bSetRef c s m R d = some s1 → fresh c m R d = some t1 →
      ∀ ops', trace c m s1 ops' = (trace c m t1 ops').map (shiftObs ops.length) ∧
        OptRel (SameUpTo ops.length) (run c m s1 ops') (run c m t1 ops') := by
  have ht : s.total = ops.length := (run_total c m bInit s ops hx).trans (Nat.zero_add _)
  obtain ⟨h1, h2⟩ := setReference_twin c m s R d
  rw [ht] at h1 h2
  exact ⟨h1, fun s1 t1 hs hf ops' => (h2 s1 t1 hs hf).2.2 ops'⟩

/-- started in `s`, the history `es.flatten` reports a drift at the end of every block of `es` -/
def DriftsAt (c : BCfg α) (m : Nat) : BState α → List (List (Op α)) → Prop
  | _, [] => True
  | s, e :: es => e ≠ [] ∧ ∃ s', run c m s e = some s' ∧ s'.drift = .drift ∧ DriftsAt c m s' es

/-- the observation sequences of the fresh twins, one per block: the twin of a block has as its
    reference the last batch of the block before it (`B` for the first block); the `k`-th sequence
    is moved by the number of batches before its block -/
def twinTraces (c : BCfg α) (m : Nat) : Nat → List (List α) → List (List (Op α)) → List (Obs α)
  | _, _, [] => []
  | off, B, e :: es => (twinTrace c m B e).map (shiftObs off) ++ twinTraces c m (off + e.length) (lastBatch B e) es

/-- every fresh twin (reference = the last batch of the previous block) reports a drift at the end of
    its own block -/
def TwinDrifts (c : BCfg α) (m : Nat) : List (List α) → List (List (Op α)) → Prop
  | _, [] => True
  | _, [] :: _ => False
  | B, (op :: ops) :: es =>
    (∃ t, twinRun c m B op ops = some t ∧ t.drift = .drift) ∧ TwinDrifts c m (lastBatch B (op :: ops)) es

theorem driftsAt_of_prefixes (c : BCfg α) (m : Nat) (es : List (List (Op α))) (s : BState α)
    (hne : ∀ e ∈ es, e ≠ [])
    (h : ∀ k, k < es.length → (run c m s (es.take (k + 1)).flatten).map (·.drift) = some .drift) :
    DriftsAt c m s es := by
  induction es generalizing s with
  | nil => trivial
  | cons e es ih =>
    obtain ⟨s', hs', hd, hk⟩ := runO_prefixes_cons
      (fun (s : BState α) (op : Op α) => (bStep c s m op.1 op.2).map Prod.fst) (·.drift) .drift s e es h
    exact ⟨hne e List.mem_cons_self, s', hs', hd, ih s' (fun e' he' => hne e' (List.mem_cons_of_mem _ he')) hk⟩

theorem twin_epochs_gen (c : BCfg α) (m : Nat) (es : List (List (Op α))) (s : BState α) (B : List (List α))
    (h : s.drift = .drift) (hr : s.refData = some B) (hd : DriftsAt c m s es) :
    TwinDrifts c m B es ∧
    ∀ ys, trace c m s (es.flatten ++ ys) =
      twinTraces c m s.total B es ++
        (twinTrace c m (es.foldl lastBatch B) ys).map (shiftObs (s.total + es.flatten.length)) := by
  induction es generalizing s B with
  | nil =>
    refine ⟨trivial, fun ys => ?_⟩
    simpa [twinTraces] using twin_trace c m s B h hr ys
  | cons e es ih =>
    obtain ⟨hne, s1, hrun, hd1, hrest⟩ := hd
    obtain ⟨op, ops, rfl⟩ := List.exists_cons_of_ne_nil hne
    obtain ⟨t1, t2⟩ := twin c m s B h hr op ops
    have hr1 := drift_reference c m s s1 (op :: ops) hne B hrun hd1
    have htot : s1.total = s.total + (op :: ops).length := run_total c m s s1 _ hrun
    obtain ⟨i1, i2⟩ := ih s1 _ hd1 hr1 hrest
    constructor
    · refine ⟨?_, i1⟩
      rw [hrun] at t1
      obtain ⟨h0, -⟩ | ⟨_, t, hs, ht, hR⟩ := t1.cases
      · cases h0
      · cases hs; exact ⟨t, ht, hR.2.2.1 ▸ hd1⟩
    · intro ys
      rw [List.flatten_cons, List.append_assoc, trace_append, hrun, List.length_append, ← Nat.add_assoc,
        ← htot]
      dsimp only
      rw [i2 ys, twinTraces, t2, List.foldl_cons, List.append_assoc, ← htot]

/-- **Second, third, … drift** (any number of epochs).  Let a history from any start state `s0` be
    cut into non-empty blocks `e₀, e₁ … eₙ` at (any of) its reported drifts, and let `Bₖ` be the last
    batch of `eₖ` (`lastBatch [] eₖ`; the default `[]` is never taken, `DriftsAt` has `eₖ ≠ []`).  Then
    * for every `k ≥ 1` the newly constructed detector with `set_reference(Bₖ₋₁)` fed only `eₖ`
      reports a drift at the end of `eₖ`;
    * the observations of the running detector on `e₀ ++ e₁ ++ … ++ eₙ ++ ys`, for every continuation
      `ys`, are its observations on `e₀`, followed by those of the fresh twins with references
      `B₀, …, Bₙ` fed `e₁, …, eₙ, ys` respectively, totals moved by the number of batches before
      the respective block. -/
theorem twin_epochs (c : BCfg α) (m : Nat) (s0 : BState α) (e0 : List (Op α)) (es : List (List (Op α)))
    (h : DriftsAt c m s0 (e0 :: es)) (ys : List (Op α)) :
    TwinDrifts c m (lastBatch [] e0) es ∧
    trace c m s0 ((e0 :: es).flatten ++ ys) =
      trace c m s0 e0 ++ twinTraces c m (s0.total + e0.length) (lastBatch [] e0) es ++
        (twinTrace c m ((e0 :: es).foldl lastBatch []) ys).map
          (shiftObs (s0.total + (e0 :: es).flatten.length)) := by
  obtain ⟨hne, s1, hrun, hd1, hrest⟩ := h
  have hr1 := drift_reference c m s0 s1 e0 hne [] hrun hd1
  have htot : s1.total = s0.total + e0.length := run_total c m s0 s1 _ hrun
  obtain ⟨i1, i2⟩ := twin_epochs_gen c m es s1 _ hd1 hr1 hrest
  refine ⟨i1, ?_⟩
  rw [List.flatten_cons, List.append_assoc, trace_append, hrun, List.length_append, ← Nat.add_assoc,
    ← htot]
  dsimp only
  rw [i2 ys, List.foldl_cons, List.append_assoc]

end MV.KdqBatch
